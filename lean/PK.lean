import PK.Model.Card
import PK.Model.Trie
import PK.Model.Lookup
import PK.Model.Hand
import PK.Model.State
import PK.Model.Notation
import PK.Model.Acpc
import PK.Model.Analysis
import PK.Model.Games
import PK.Model.Import
import PK.Model.Machine
import PK.Spec.Ledger
import PK.Spec.Phases
import PK.Spec.Ranking
import PK.Spec.Variants
import PK.Proofs.ListLemmas
import PK.Proofs.Guard
import PK.Proofs.VerifyDeal
import PK.Proofs.Step
import PK.Proofs.Frames
import PK.Properties.C06
import PK.Proofs.CardsStep
import PK.Proofs.CardsOps
import PK.Proofs.VerifyShow
import PK.Proofs.CardsShow
import PK.Proofs.Control
import PK.Proofs.Ledger
import PK.Proofs.Sorted
import PK.Proofs.Pots
import PK.Proofs.PushSum
import PK.Proofs.Validate
import PK.Properties.C03
import PK.Proofs.LedgerStep
import PK.Proofs.VerifyFlagged
import PK.Proofs.Phase
import PK.Proofs.RoundLemmas
import PK.Proofs.Select
import PK.Proofs.TableCheck
import PK.Proofs.TableSound
import PK.Properties.C04
import PK.Proofs.TableLift
import PK.Proofs.Text
import PK.Properties.C01
import PK.Properties.C08
import PK.Properties.C07
import PK.Properties.C01End
import PK.Properties.C02
import PK.Properties.C02Capped
import PK.Properties.C04Kernel
import PK.Properties.C04KernelRegular
import PK.Properties.C04KernelSmall
import PK.Properties.C04Table
import PK.Properties.C05
import PK.Properties.C05Rules
import PK.Properties.C02Rules
import PK.Properties.C07Live
import PK.Properties.C03Round
import PK.Properties.C05Omaha
import PK.Properties.C06Step
import PK.Properties.C07Offers
import PK.Properties.C09
import PK.Properties.C09Twin
import PK.Properties.C10
import PK.Properties.C10Board
import PK.Properties.C10Hold
import PK.Properties.C11
import PK.Properties.C12
import PK.Properties.C13
import PK.Properties.C13KernelHigh
import PK.Properties.C13KernelLow
import PK.Properties.C13Table
import PK.Properties.C14
import PK.Properties.C14Cards
import PK.Properties.C15
import PK.Properties.C15Replay
import PK.Properties.C15Auto
import PK.Properties.C19
import PK.Properties.C16
import PK.Properties.C17
import PK.Properties.C18
import PK.Properties.C20
