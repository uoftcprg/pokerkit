import PK.Properties.C01
import PK.Properties.C01End
import PK.Proofs.Frames
import PK.Proofs.LedgerStep
import PK.Proofs.Pots
import PK.Proofs.PushSum
#print axioms PK.C01_init
#print axioms PK.C01_step
#print axioms PK.C01_run
#print axioms PK.C01_pots_sum
#print axioms PK.C01_conservation
#print axioms PK.C01_zero_sum
#print axioms PK.C01_payoff
#print axioms PK.pots_sum
#print axioms PK.collectBets_ledger
#print axioms PK.pushChips_ledger
#print axioms PK.freezePots_ledger
#print axioms PK.divmod_spec
#print axioms PK.subPotsOfPot_sum
#print axioms PK.freezePots_sum
#print axioms PK.pushChips_sum
#print axioms PK.pv_frame
#print axioms PK.bv_frame
#print axioms PK.head_pullTail
#print axioms PK.bv_while_pulling
#print axioms PK.C01_push_step
#print axioms PK.C01_pull_step
#print axioms PK.C01_end_of_hand
#print axioms PK.C01_final_zero_sum
