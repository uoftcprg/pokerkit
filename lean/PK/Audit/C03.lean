import PK.Properties.C03
import PK.Properties.C03Round
import PK.Proofs.Frames
import PK.Proofs.RoundLemmas
#print axioms PK.C03_call_amount
#print axioms PK.C03_fold_tournament
#print axioms PK.C03_fold_facing_bet
#print axioms PK.C03_fold_cash
#print axioms PK.C03_bring_in_first
#print axioms PK.C03_min_amount
#print axioms PK.C03_fixed_limit
#print axioms PK.C03_no_limit
#print axioms PK.C03_pot_limit
#print axioms PK.C03_range
#print axioms PK.C03_admissible
#print axioms PK.C03_cap
#print axioms PK.C03_covered
#print axioms PK.C03_nobody
#print axioms PK.C03_short_all_in
#print axioms PK.C03_full_all_ins_reopen
#print axioms PK.C03_refuses_all
#print axioms PK.C03_raise_bookkeeping
#print axioms PK.round_step
#print axioms PK.raise_up_plain
#print axioms PK.C03_queue
#print axioms PK.C03_waiting
#print axioms PK.C03_round_ends
#print axioms PK.tv_frame
#print axioms PK.second_ge_min
