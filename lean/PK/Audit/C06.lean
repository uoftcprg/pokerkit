import PK.Properties.C06
import PK.Properties.C06Step
import PK.Proofs.CardsOps
import PK.Proofs.CardsShow
import PK.Proofs.CardsStep
import PK.Proofs.Frames
import PK.Proofs.VerifyShow
#print axioms PK.C06_init
#print axioms PK.C06_muck
#print axioms PK.C06_consume_from_deck
#print axioms PK.C06_no_early_replenish
#print axioms PK.C06_engine_choice
#print axioms PK.C06_discard_perm
#print axioms PK.C06_burn
#print axioms PK.C06_deal_hole
#print axioms PK.C06_replenish
#print axioms PK.cv_frame
#print axioms PK.consume_spec
#print axioms PK.verify_cards_spec
#print axioms PK.cstep_opBurn
#print axioms PK.cstep_opDealHole
#print axioms PK.cstep_opDealBoard
#print axioms PK.cstep_opDraw
#print axioms PK.cstep_opFold
#print axioms PK.cstep_opKill
#print axioms PK.cstep_opShow
#print axioms PK.C06_step
#print axioms PK.C06_reachable
#print axioms PK.C06_exactly_once
#print axioms PK.C06_request_distinct
#print axioms PK.tabled_spec
#print axioms PK.verifyShow_cards
#print axioms PK.consume_hole
#print axioms PK.cstep_opShow_cards
