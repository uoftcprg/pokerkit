import PK.Properties.C10
import PK.Properties.C10Hold
import PK.Properties.C10Board
import PK.Proofs.Frames
#print axioms PK.C10_burn_first_hole
#print axioms PK.C10_burn_first_board
#print axioms PK.C10_burn_only_when_prescribed
#print axioms PK.C10_no_hole_during_draw
#print axioms PK.C10_no_board_during_draw
#print axioms PK.C10_no_burn_during_draw
#print axioms PK.C10_hole_count
#print axioms PK.C10_board_count
#print axioms PK.dealee_fold
#print axioms PK.C10_dealee_longest
#print axioms PK.C10_dealee_first
#print axioms PK.C10_dealee_draw
#print axioms PK.C10_deal_hole_step
#print axioms PK.C10_deal_hole_per_player
#print axioms PK.C10_discards_held
#print axioms PK.C10_draw_count
#print axioms PK.C10_draw_step
#print axioms PK.discardOne_spec
#print axioms PK.C10_draw_fold
#print axioms PK.C10_deal_setup
#print axioms PK.C10_owed
#print axioms PK.C10_owed_fallback
#print axioms PK.C10_begin_deal
#print axioms PK.C10_betting_after_dealing
#print axioms PK.C10_no_actor_while_dealing
#print axioms PK.hv_frame
#print axioms PK.C10_hold_step
#print axioms PK.C10_hold_reachable
#print axioms PK.C10_same_count_at_betting
#print axioms PK.C10_begin_deal_count
#print axioms PK.bdv_frame
#print axioms PK.board_dealBoard
#print axioms PK.board_beginDeal
#print axioms PK.C10_board_conservation
#print axioms PK.C10_board_run
#print axioms PK.C10_board_street
