import PK.Properties.C13
import PK.Properties.C13Table
import PK.Proofs.Select
open PK
#print axioms C13_position_opener
#print axioms C13_posts_do_not_count
#print axioms C13_blinds_count
#print axioms C13_later_rounds
#print axioms C13_heads_up_button_first
#print axioms C13_heads_up_tie_seat0
#print axioms C13_heads_up_reversed
#print axioms C13_low_card
#print axioms C13_high_card
#print axioms C13_low_hand
#print axioms C13_high_hand
#print axioms C13_first_actor
#print axioms pickBy_spec
#print axioms argmaxKey_range
#print axioms PK.lowOpening_table_ok
#print axioms PK.highOpening_table_ok
#print axioms PK.up_sig
#print axioms PK.entry_of_check
#print axioms PK.C13_opening_table
#print axioms PK.C13_opening_same_size
#print axioms PK.C13_low_hand_rules
#print axioms PK.C13_high_hand_rules
