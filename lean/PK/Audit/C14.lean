import PK.Properties.C14
import PK.Properties.C14Cards
import PK.Proofs.Frames
open PK
#print axioms rv_frame
#print axioms rv_opShow
#print axioms C14_inv_init
#print axioms C14_inv_step
#print axioms C14_reachable
#print axioms C14_board_count
#print axioms C14_tournament_once
#print axioms C14_no_selection_after_close
#print axioms C14_count_positive
#print axioms C14_offered
#print axioms C14_offer_not_last
#print axioms C14_offered_only_all_in
#print axioms C14_select_iff
#print axioms C14_select_once
#print axioms C14_consensus
#print axioms C14_select_updates
#print axioms C14_board_cards
#print axioms C14_shared_prefix
#print axioms C14_runouts_of_board
#print axioms C14_own_suffix
#print axioms C14_even_split
#print axioms PK.C14_no_card_twice
#print axioms PK.C14_hands_and_boards_disjoint
