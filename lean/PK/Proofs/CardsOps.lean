/-
  PK.Proofs.CardsOps — burning, dealing, folding, killing and discarding keep the card invariant: burning and
  dealing provided the request passes without a dealability warning and names known cards only (and `deal_board` does
  not stop in its loop), discarding provided the street has a row in the table of discards (`DrawInRange`).
-/
import PK.Proofs.CardsStep
namespace PK
open State M

variable {cfg : Config} {env : Env}

theorem cstep_opBurn (hd : DeckOk cfg) (hshuf : ∀ l, (env.shuffle l).Perm l) (m : M)
    (h : CardInv cfg m.st) (arg : CardsArg) (rest' : List Ctl) (hctl : m.ctl = .opBurn arg :: rest')
    (hclean : arg.clean) (hw : (step cfg env m).warned = false) :
    CardInv cfg (step cfg env m).st := by
  revert hw
  step_at hctl
  split
  · exact fun _ => h
  · rename_i v hv
    split
    · exact fun _ => h
    · split
      · exact fun _ => h
      · intro hw
        have c1 := h.request hd hshuf (CardsArg.clean_default 1 hclean) (verifyCardBurning_spec hv).1
          (Bool.or_eq_false_iff.1 hw).2
        simp only [M.cont]
        refine h.exchange [] [] (List.Perm.trans ?_ c1) (.of_eq (inplay_consume ..)) ?_
        · unfold rest
          perm_ac
        · rw [consumeCards_eq]

theorem cstep_opDealHole (hd : DeckOk cfg) (hshuf : ∀ l, (env.shuffle l).Perm l) (m : M)
    (h : CardInv cfg m.st) (arg : CardsArg) (i : Option Nat) (rest' : List Ctl)
    (hctl : m.ctl = .opDealHole arg i :: rest')
    (hclean : arg.clean) (hw : (step cfg env m).warned = false) :
    CardInv cfg (step cfg env m).st := by
  revert hw
  step_at hctl
  split
  · exact fun _ => h
  · rename_i v hv
    obtain ⟨_, hv0, hp, _⟩ := verifyHoleDealing_spec hv
    obtain ⟨⟨cards, p⟩, vw⟩ := v
    intro hw
    have c1 := h.request hd hshuf (CardsArg.clean_default 1 hclean) hv0 (Bool.or_eq_false_iff.1 hw).2
    simp only [M.cont]
    refine h.exchange cards [] c1 ?_ ?_
    · rw [← inplay_consume (env := env) m.st cards]
      refine ((flatten_set_append _ p cards ?_).append_left _).trans (List.perm_append_comm_assoc ..)
      rw [consumeCards_eq]
      exact h.holes ▸ hp
    · rw [List.length_set, consumeCards_eq]

theorem cstep_opDealBoard (hd : DeckOk cfg) (hshuf : ∀ l, (env.shuffle l).Perm l) (m : M)
    (h : CardInv cfg m.st) (arg : CardsArg) (rest' : List Ctl)
    (hctl : m.ctl = .opDealBoard arg :: rest')
    (hclean : arg.clean) (hw : (step cfg env m).warned = false) (herr : (step cfg env m).err = none) :
    CardInv cfg (step cfg env m).st := by
  revert hw herr
  rw [step_opDealBoard_eq hctl]
  split
  · exact fun _ _ => h
  · rename_i v hv
    obtain ⟨_, bdc0, _, hv0, _⟩ := verifyBoardDealing_spec hv
    split
    · split
      · -- the loop failed: the machine stops with an error, which the hypothesis excludes
        exact fun _ herr => nomatch herr
      · rename_i b idx hr
        intro hw _
        rw [takeBoardCards_eq] at hr ⊢
        refine h.exchange v.val [] (h.request hd hshuf (CardsArg.clean_default bdc0 hclean) hv0
          (Bool.or_eq_false_iff.1 hw).2) ?_ rfl
        exact ((board_fold_perm v.val _ _ b idx hr).append_right _).trans (.of_eq (List.append_assoc ..))
    · exact fun _ _ => h

theorem muck_inv {s s' : State} {i : Nat} (h : CardInv cfg s) (hm : s.muckHoleCards i = .ok s') :
    CardInv cfg s' :=
  ⟨(muck_perm hm).trans h.perm, by rw [muckHoleCards_ok hm]; exact (List.length_set ..).trans h.holes⟩

theorem cstep_opFold (m : M) (h : CardInv cfg m.st) (rest' : List Ctl) (hctl : m.ctl = .opFold :: rest') :
    CardInv cfg (step cfg env m).st :=
  step_muck hctl (.inl rfl) (fun _ _ _ _ => h.of_cv rfl) muck_inv

theorem cstep_opKill (m : M) (h : CardInv cfg m.st) (i : Option Nat) (rest' : List Ctl)
    (hctl : m.ctl = .opKill i :: rest') : CardInv cfg (step cfg env m).st :=
  step_muck hctl (.inr ⟨i, rfl⟩) (fun _ _ _ _ => h.of_cv rfl) muck_inv

theorem discard_inv {s : State} {p k : Nat} {c : Card} (h : CardInv cfg s) (hc : c ∈ s.holeOf p)
    (hk : k < s.discarded.length) : CardInv cfg (discardOne p k s c) := by
  refine h.exchange [] [c] ?_ ?_ (List.length_set ..)
  · exact ((flatten_set_append s.discarded k [c] hk).append_left _).trans List.perm_middle
  · have hi := (flatten_set_erase s.hole p hc).append_left s.board.flatten
    rw [List.erase_eq_eraseIdx_of_idxOf rfl] at hi
    exact (List.perm_middle (l₁ := s.board.flatten)).symm.trans hi

theorem discards_inv {s : State} {p k : Nat} {cards : List Card} (h : CardInv cfg s) (hk : k < s.discarded.length)
    (hcnt : ∀ c ∈ cards, cards.count c ≤ (s.holeOf p).count c) : CardInv cfg (cards.foldl (discardOne p k) s) :=
  (foldl_discard (P := fun s => CardInv cfg s ∧ k < s.discarded.length)
    (fun _ _ hs hc => ⟨discard_inv hs.1 hc hs.2, (List.length_set ..).symm ▸ hs.2⟩) cards s ⟨h, hk⟩ hcnt).1

/-- the side condition of the draw step: the street index points into the table of discards
    (checked on every step of every trace by the driver) -/
def DrawInRange (m : M) : Prop :=
  ∀ cards rest', m.ctl = .opDraw cards :: rest' →
    ∀ si, m.st.streetIndex = some si → si.toNat < m.st.discarded.length

theorem cstep_opDraw (m : M) (h : CardInv cfg m.st) (cards : List Card) (rest' : List Ctl)
    (hctl : m.ctl = .opDraw cards :: rest') (hr : DrawInRange m) :
    CardInv cfg (step cfg env m).st := by
  rcases step_opDraw_cases (cfg := cfg) (env := env) hctl with e | ⟨p, si, hsi, hcount, e⟩
  · exact e ▸ h
  · exact e ▸ discards_inv (h.of_cv rfl) (hr cards rest' hctl si hsi) hcount

end PK
