/-
  PK.Proofs.CardsShow — `show_or_muck_hole_cards` keeps every card in exactly one place.  A show puts the cards
  held back under the deck and takes the cards tabled out of the piles, each exactly once: a plain show tables the
  cards held; a show naming cards (`show_or_muck_hole_cards('AhKd')`) that passes without a warning names distinct
  cards that are held or out of play.  That is what the repair b2f3dc3 (finding F23) established: before it the
  cards named were checked as a *set*, so `'AhAh'` passed and Ah was held twice; with set semantics the cards named
  need not be a `Subperm` of the piles and `cstep_opShow_cards` does not go through (`tabled_spec` says what the list
  semantics gives in terms of lists alone: the tabled cards are distinct, each held or out of play).
-/
import PK.Proofs.CardsOps
import PK.Proofs.VerifyShow
namespace PK
open State M

variable {cfg : Config} {env : Env}

theorem showOrMuck_inv (hd : DeckOk cfg) (hshuf : ∀ l, (env.shuffle l).Perm l) {s s' : State} {pl : ShowPlan}
    (hs : s.showOrMuck env pl = .ok s') (h : CardInv cfg s) (hp : pl.player < cfg.n)
    (hT : pl.status = true → (∀ c ∈ pl.holeCards, c.known = true) ∧
      pl.holeCards.Subperm (s.holeOf pl.player ++ rest s)) : CardInv cfg s' := by
  unfold State.showOrMuck at hs
  split at hs
  · rename_i hst
    obtain ⟨hk, hsub⟩ := hT hst
    cases hs
    have hown := holeOf_sublist s pl.player
    have hr : (rest { s with deck := s.deck ++ s.holeOf pl.player }).Perm (s.holeOf pl.player ++ rest s) := by
      unfold rest
      perm_ac
    have hA := hr.subperm.trans (List.perm_append_comm.subperm.trans ((List.subperm_append_left (rest s)).2 hown.subperm))
    have hnd := nodup_of_subperm hA (h.nodup hd)
    rw [List.filter_eq_self.2 hk, produceCards_eq hnd.of_append_left.of_append_left.of_append_left
      fun c hc => h.known hd c (List.mem_append_right _ (hown.subset hc))]
    exact h.exchange _ _
      ((consume_rest hshuf hnd (fun c hc => h.known hd c (hA.subset hc)) (hsub.trans hr.symm.subperm)).trans hr)
      (inplay_set_hole (by rw [consumeCards_eq]) (by rw [consumeCards_eq]) (.inl (h.holes ▸ hp)))
      (by rw [List.length_set, consumeCards_eq])
  · split at hs
    · cases hs
    · rename_i hm
      cases hs
      exact (muck_inv h hm).of_cv rfl

theorem cstep_opShow (hd : DeckOk cfg) (hshuf : ∀ l, (env.shuffle l).Perm l) (m : M) (h : CardInv cfg m.st)
    (arg : ShowArg) (i : Option Nat) (rest' : List Ctl) (hctl : m.ctl = .opShow arg i :: rest')
    (hplain : arg.plain) : CardInv cfg (step cfg env m).st := by
  have h1 (p : Nat) : CardInv cfg (m.st.offQueue cfg p) := h.of_cv (by rw [offQueue_eq]; rfl)
  refine step_show hctl h h1 fun hv _ hs => ?_
  refine showOrMuck_inv hd hshuf hs (h1 _) (verifyShow_spec hv).1 fun hst => ?_
  rw [offQueue_eq, verifyShow_plan hv hplain hst]
  exact ⟨fun c hc => h.known hd c (List.mem_append_right _ ((holeOf_sublist ..).subset hc)),
    (List.sublist_append_left ..).subperm⟩

theorem foldl_erase_self (own : List Card) : own.foldl (fun l c => l.erase c) own = [] := by
  apply List.eq_nil_iff_forall_not_mem.2
  intro c hc
  have := List.count_pos_iff.2 hc
  rw [← List.diff_eq_foldl, List.count_diff] at this
  omega

theorem tabled_spec (own H R : List Card) (hown : own.Nodup) (hdisj : ∀ c ∈ own, c ∉ R)
    (hex : (own.foldl (fun l c => l.erase c) H).Nodup)
    (hsub : ∀ c ∈ own.foldl (fun l c => l.erase c) H, c ∈ R) :
    H.Nodup ∧ ∀ c ∈ H, c ∈ own ∨ c ∈ R := by
  rw [← List.diff_eq_foldl] at hex hsub
  have hs := subperm_append_diff H own
  have hnd : (own ++ H.diff own).Nodup :=
    List.nodup_append.2 ⟨hown, hex, fun a ha b hb e => hdisj a ha (e ▸ hsub b hb)⟩
  exact ⟨nodup_of_subperm hs hnd, fun c hc => (List.mem_append.1 (hs.subset hc)).imp_right (hsub c)⟩

theorem cstep_opShow_cards (hd : DeckOk cfg) (hshuf : ∀ l, (env.shuffle l).Perm l) (m : M)
    (h : CardInv cfg m.st) (cs : List Card) (i : Option Nat) (rest' : List Ctl)
    (hctl : m.ctl = .opShow (.cards cs) i :: rest')
    (hk : ∀ v, m.st.verifyShow cfg env (.cards cs) i = .ok v → ∀ c ∈ v.val.holeCards, c.known = true)
    (hw : (step cfg env m).warned = false) :
    CardInv cfg (step cfg env m).st := by
  have h1 (p : Nat) : CardInv cfg (m.st.offQueue cfg p) := h.of_cv (by rw [offQueue_eq]; rfl)
  refine step_show hctl h h1 fun {v _} hv hwe hs => ?_
  refine showOrMuck_inv hd hshuf hs (h1 _) (verifyShow_spec hv).1 fun _ => ?_
  obtain ⟨_, _, v0, hv0, hwv⟩ := verifyShow_cards hv
  have hkH := hk v hv
  rw [List.filter_eq_self.2 hkH, ← List.diff_eq_foldl] at hv0
  have hex := verify_cards_subperm hshuf (arg := .cards _)
    (fun c hc => hkH c ((List.diff_sublist ..).subset hc)) hv0
    (hwv.trans (Bool.or_eq_false_iff.1 (hwe.symm.trans hw)).2)
  rw [verify_cards_val hv0] at hex
  rw [offQueue_eq]
  exact ⟨hkH, (subperm_append_diff ..).trans ((List.subperm_append_left _).2 hex)⟩

end PK
