/-
  PK.Proofs.CardsStep — what the card operations are built from: whatever cards a dealing operation takes
  (from the deck, from the reserve, across a replenish), they leave the piles exactly once; a request that
  passes without a warning names some of the cards out of play; the invariant (`CardInv`).
-/
import PK.Properties.C06
namespace PK
open State

variable {cfg : Config} {env : Env}

structure DeckOk (cfg : Config) : Prop where
  nodup : cfg.deck.Nodup
  known : ∀ c ∈ cfg.deck, c.known = true

theorem diff_append_of_nodup {a b : List Card} (cards : List Card) (h : (a ++ b).Nodup) :
    (a ++ b).diff cards = a.diff cards ++ b.diff cards := by
  rw [h.sdiff_eq_filter, h.of_append_left.sdiff_eq_filter, h.of_append_right.sdiff_eq_filter, List.filter_append]

theorem diff_flatten_of_nodup (cards : List Card) : ∀ {L : List (List Card)}, L.flatten.Nodup →
    L.flatten.diff cards = (L.map (·.diff cards)).flatten
  | [], _ => List.nil_diff _
  | a :: L, h => by
    rw [List.flatten_cons, diff_append_of_nodup cards h, diff_flatten_of_nodup cards h.of_append_right]
    rfl

theorem rest_eraseAll (cards : List Card) {t : State} (hn : (rest t).Nodup) :
    rest (eraseAll cards t) = (rest t).diff cards := by
  rw [eraseAll_eq]
  unfold rest at hn ⊢
  rw [diff_append_of_nodup cards hn, diff_append_of_nodup cards hn.of_append_left,
    diff_append_of_nodup cards hn.of_append_left.of_append_left, diff_flatten_of_nodup cards hn.of_append_right]

theorem consume_rest (hshuf : ∀ l, (env.shuffle l).Perm l) {s : State} {cards : List Card}
    (hnd : (rest s).Nodup) (hk : ∀ c ∈ rest s, c.known = true) (hc : cards.Subperm (rest s)) :
    (cards ++ rest (s.consumeCards env cards)).Perm (rest s) := by
  have key (t : State) (ht : (rest t).Perm (rest s)) : (cards ++ rest (eraseAll cards t)).Perm (rest s) := by
    rw [rest_eraseAll cards (ht.nodup_iff.2 hnd)]
    exact (append_diff_perm (hc.trans ht.symm.subperm)).trans ht
  rw [consume_eq]
  split
  · exact key _ (replenished_rest hshuf hnd hk)
  · exact key _ (.refl _)

theorem inplay_consume (s : State) (cards : List Card) : inplay (s.consumeCards env cards) = inplay s := by
  rw [consumeCards_eq]
  rfl

theorem consume_spec (hshuf : ∀ l, (env.shuffle l).Perm l) (s : State) (cards : List Card)
    (hnd : (allCards s).Nodup) (hknown : ∀ c ∈ allCards s, c.known = true)
    (hc : cards.Nodup) (hsub : ∀ c ∈ cards, c ∈ rest s) :
    (cards ++ rest (s.consumeCards env cards)).Perm (rest s) ∧
    (s.consumeCards env cards).board = s.board ∧ (s.consumeCards env cards).hole = s.hole ∧
    (s.consumeCards env cards).discarded.length = s.discarded.length := by
  have hs := allCards_split s
  refine ⟨consume_rest hshuf (hs.nodup_iff.1 hnd).of_append_left
    (fun c h => hknown c (hs.mem_iff.2 (List.mem_append_left _ h))) (List.subperm_of_subset hc hsub), ?_, ?_, ?_⟩
  · rw [consumeCards_eq]
  · rw [consumeCards_eq]
  · rw [consume_eq, eraseAll_eq]
    split <;> simp [replenished, State.produceCards]

def State.CardsArg.clean : CardsArg → Prop
  | .cards cs => ∀ c ∈ cs, c.known = true
  | _ => True

theorem State.CardsArg.clean_default {a : CardsArg} (k : Int) (h : a.clean) :
    (match a with | .none => CardsArg.count k | a => a).clean := by
  cases a <;> exact h

theorem coverKnown_isSome : ∀ (pool cs : List Card),
    (coverKnown pool cs).isSome = true ↔ (cs.filter Card.known).Subperm pool
  | _, [] => ⟨fun _ => List.nil_subperm, fun _ => rfl⟩
  | pool, c :: cs => by
    unfold coverKnown
    cases hk : c.known
    · rw [List.filter_cons_of_neg (by simp [hk])]
      exact coverKnown_isSome pool cs
    · rw [List.filter_cons_of_pos hk]
      by_cases hc : c ∈ pool
      · rw [if_neg (by simp), if_pos (List.contains_iff_mem.2 hc), coverKnown_isSome,
          (List.perm_cons_erase hc).subperm_left, List.subperm_cons]
      · rw [if_neg (by simp), if_neg (by simpa using hc)]
        exact ⟨nofun, fun h => absurd (h.subset List.mem_cons_self) hc⟩

theorem coverKnown_subperm (cs pool : List Card) (h : cs.Subperm pool) : (coverKnown pool cs).isSome = true :=
  (coverKnown_isSome pool cs).2 (List.filter_sublist.subperm.trans h)

theorem pyTake_sublist (l : List Card) (k : Int) : (pyTake l k).Sublist l := by
  unfold pyTake; split <;> exact List.take_sublist _ _

theorem dealable_subperm (hshuf : ∀ l, (env.shuffle l).Perm l) (s : State) (k : Option Int) :
    (s.dealableCards env k).Subperm (rest s) := by
  have key (more : Bool) : (if more then s.deck ++ env.shuffle s.reservedCards else s.deck).Subperm (rest s) := by
    rw [rest_eq]
    split
    · exact (List.subperm_append_left _).2 ((hshuf _).subperm.trans List.filter_sublist.subperm)
    · exact (List.sublist_append_left ..).subperm
  exact key _

theorem verify_cards_subperm (hshuf : ∀ l, (env.shuffle l).Perm l) {s : State} {arg : CardsArg}
    {v : Verdict (List Card)} (hclean : arg.clean)
    (h : s.verifyCardsConsumption cfg env arg = .ok v) (hw : v.warned = false) : v.val.Subperm (rest s) := by
  unfold State.verifyCardsConsumption at h
  cases arg with
  | none => cases h
  | count k =>
    simp only at h
    split at h
    · cases h
    · cases h
      exact (pyTake_sublist _ k).subperm.trans (dealable_subperm hshuf s _)
  | cards cs =>
    simp only at h
    split at h
    · unfold State.warnOr at h
      split at h
      · cases h
      · cases h; cases hw
    · cases h
      rename_i hcov
      rw [Bool.not_eq_true, Option.isNone_eq_false_iff, coverKnown_isSome, List.filter_eq_self.2 hclean] at hcov
      exact hcov.trans (dealable_subperm hshuf s _)

theorem verify_cards_spec (hshuf : ∀ l, (env.shuffle l).Perm l) (s : State) (arg : CardsArg)
    (v : Verdict (List Card)) (hnd : (rest s).Nodup) (hclean : arg.clean)
    (h : s.verifyCardsConsumption cfg env arg = .ok v) (hw : v.warned = false) :
    v.val.Nodup ∧ ∀ c ∈ v.val, c ∈ rest s := by
  have hs := verify_cards_subperm hshuf hclean h hw
  exact ⟨nodup_of_subperm hs hnd, hs.subset⟩

structure CardInv (cfg : Config) (s : State) : Prop where
  perm : (allCards s).Perm cfg.deck
  holes : s.hole.length = cfg.n

theorem CardInv.nodup {s : State} (hd : DeckOk cfg) (h : CardInv cfg s) : (rest s ++ inplay s).Nodup :=
  (allCards_split s).nodup_iff.1 (h.perm.nodup_iff.2 hd.nodup)

theorem CardInv.known {s : State} (hd : DeckOk cfg) (h : CardInv cfg s) :
    ∀ c ∈ rest s ++ inplay s, c.known = true :=
  fun c hc => hd.known c (h.perm.mem_iff.1 ((allCards_split s).mem_iff.2 hc))

theorem holeOf_sublist (s : State) (p : Nat) : (s.holeOf p).Sublist (inplay s) := by
  refine List.Sublist.trans ?_ (List.sublist_append_right ..)
  unfold State.holeOf
  rw [List.getD_eq_getElem?_getD]
  cases h : s.hole[p]? with
  | none => exact List.nil_sublist _
  | some r => exact List.sublist_flatten_of_mem (List.mem_of_getElem? h)

theorem CardInv.of_cv {s s' : State} (h : CardInv cfg s) (e : cv s' = cv s) : CardInv cfg s' := by
  cases s; cases s'
  cases e
  exact ⟨h.perm, h.holes⟩

/-- conservation from the two halves: the cards `X` left the piles and turned up in play, the cards `Y` left play
    and turned up on the piles -/
theorem CardInv.exchange {s s' : State} (h : CardInv cfg s) (X Y : List Card)
    (hr : (X ++ rest s').Perm (Y ++ rest s)) (hi : (Y ++ inplay s').Perm (X ++ inplay s))
    (hh : s'.hole.length = s.hole.length) : CardInv cfg s' :=
  ⟨(allCards_exchange X Y hr hi).trans h.perm, hh.trans h.holes⟩

theorem CardInv.request (hd : DeckOk cfg) (hshuf : ∀ l, (env.shuffle l).Perm l) {s : State} (h : CardInv cfg s)
    {arg : CardsArg} {v : Verdict (List Card)} (hclean : arg.clean)
    (hv : s.verifyCardsConsumption cfg env arg = .ok v) (hw : v.warned = false) :
    (v.val ++ rest (s.consumeCards env v.val)).Perm (rest s) :=
  consume_rest hshuf (h.nodup hd).of_append_left (fun c hc => h.known hd c (List.mem_append_left _ hc))
    (verify_cards_subperm hshuf hclean hv hw)

end PK
