/-
  PK.Proofs.Control — the control flow of the machine, stated once for all that argue about runs.  A micro-step
  depends on the state and the running frame only (`M.out`, `step_eq_out`); it ends in an exception with the stack
  dropped, or hands over along an edge of `Pushes` with the error register as it was (`step_ctl`), so that any
  statement about which frames a step pushes is a finite check over the edges; below the running frame wait
  continuations only (`step_head`).  By kind of frame: an operation its verifier refuses raises the verifier's error
  and nothing else (`step_refused`); an `_update_*` method appends the record it was handed, raises nothing, and calls
  the `_end_*` method of its phase exactly when the phase is over (`upd_step`); only these and `no_operate` write the
  log (`ops_step`).
-/
import PK.Spec.Phases
import PK.Proofs.Step
namespace PK
open M

variable {cfg : Config} {env : Env}

/-- frame `f` run on the state `s` with nothing below it and clean registers -/
def M.out (cfg : Config) (env : Env) (s : State) (f : Ctl) : M := step cfg env ⟨s, [f], none, false⟩

/-- the control flow of the machine: `Pushes cfg f fs` if frame `f` may hand over to the frames `fs` (the nesting of
    the python calls: an operation calls its `_update_*`, which ends the phase, starts an automation loop or returns;
    `_end_*` calls the next `_begin_*`; a loop calls the default operation and comes back) -/
inductive Pushes (cfg : Config) : Ctl → List Ctl → Prop
  | beginAnte : Pushes cfg .beginAnte [.updAnte none]
  | updAnte_end op : Pushes cfg (.updAnte op) [.endAnte]
  | updAnte_loop op : cfg.auto .antePosting = true → Pushes cfg (.updAnte op) [.kAnteLoop]
  | updAnte_ret op : Pushes cfg (.updAnte op) []
  | kAnteLoop_op : Pushes cfg .kAnteLoop [.opPostAnte none, .kAnteLoop]
  | kAnteLoop_ret : Pushes cfg .kAnteLoop []
  | endAnte : Pushes cfg .endAnte [.beginCollect]
  | opPostAnte i op : Pushes cfg (.opPostAnte i) [.updAnte (some op)]
  | beginCollect : Pushes cfg .beginCollect [.updCollect none]
  | updCollect_end op : Pushes cfg (.updCollect op) [.endCollect]
  | updCollect_op op : cfg.auto .betCollection = true → Pushes cfg (.updCollect op) [.opCollect]
  | updCollect_ret op : Pushes cfg (.updCollect op) []
  | endCollect_push : Pushes cfg .endCollect [.beginPush]
  | endCollect_blind : Pushes cfg .endCollect [.beginBlind]
  | endCollect_show : Pushes cfg .endCollect [.beginShow]
  | endCollect_deal : Pushes cfg .endCollect [.beginDeal]
  | opCollect op : Pushes cfg .opCollect [.updCollect (some op)]
  | beginBlind : Pushes cfg .beginBlind [.updBlind none]
  | updBlind_end op : Pushes cfg (.updBlind op) [.endBlind]
  | updBlind_loop op : cfg.auto .blindOrStraddlePosting = true → Pushes cfg (.updBlind op) [.kBlindLoop]
  | updBlind_ret op : Pushes cfg (.updBlind op) []
  | kBlindLoop_op : Pushes cfg .kBlindLoop [.opPostBlind none, .kBlindLoop]
  | kBlindLoop_ret : Pushes cfg .kBlindLoop []
  | endBlind : Pushes cfg .endBlind [.beginDeal]
  | opPostBlind i op : Pushes cfg (.opPostBlind i) [.updBlind (some op)]
  | beginDeal : Pushes cfg .beginDeal [.updDeal none]
  | updDeal_end op : Pushes cfg (.updDeal op) [.endDeal]
  | updDeal_burn op : cfg.auto .cardBurning = true → Pushes cfg (.updDeal op) [.opBurn .none, .kDealAfterBurn]
  | updDeal_after op : Pushes cfg (.updDeal op) [.kDealAfterBurn]
  | updDeal_ret op : Pushes cfg (.updDeal op) []
  | kDealAfterBurn_hole : cfg.auto .holeDealing = true → Pushes cfg .kDealAfterBurn [.kHoleLoop, .kDealBoard]
  | kDealAfterBurn_board : Pushes cfg .kDealAfterBurn [.kDealBoard]
  | kDealAfterBurn_ret : Pushes cfg .kDealAfterBurn []
  | kHoleLoop_op : Pushes cfg .kHoleLoop [.opDealHole .none none, .kHoleLoop]
  | kHoleLoop_ret : Pushes cfg .kHoleLoop []
  | kDealBoard_op : cfg.auto .boardDealing = true → Pushes cfg .kDealBoard [.opDealBoard .none]
  | kDealBoard_ret : Pushes cfg .kDealBoard []
  | endDeal : Pushes cfg .endDeal [.beginBet]
  | opBurn a op : Pushes cfg (.opBurn a) [.updDeal (some op)]
  | opDealHole a i op : Pushes cfg (.opDealHole a i) [.updDeal (some op)]
  | opDealBoard a op : Pushes cfg (.opDealBoard a) [.updDeal (some op)]
  | opDraw cs op : Pushes cfg (.opDraw cs) [.updDeal (some op)]
  | beginBet st : Pushes cfg .beginBet [.updBet none st]
  | updBet_end op st : Pushes cfg (.updBet op st) [.endBet]
  | updBet_ret op st : Pushes cfg (.updBet op st) []
  | endBet : Pushes cfg .endBet [.beginCollect]
  | opFold op : Pushes cfg .opFold [.updBet (some op) false]
  | opCall op : Pushes cfg .opCall [.updBet (some op) false]
  | opBringIn op : Pushes cfg .opBringIn [.updBet (some op) false]
  | opCbr a op : Pushes cfg (.opCbr a) [.updBet (some op) false]
  | beginShow : Pushes cfg .beginShow [.updShow none]
  | updShow_end op : Pushes cfg (.updShow op) [.endShow]
  | updShow_runout op : cfg.auto .runoutCountSelection = true → Pushes cfg (.updShow op) [.kRunoutLoop, .kShowPart]
  | updShow_part op : Pushes cfg (.updShow op) [.kShowPart]
  | updShow_ret op : Pushes cfg (.updShow op) []
  | kRunoutLoop_op : Pushes cfg .kRunoutLoop [.opRunout none none, .kRunoutLoop]
  | kRunoutLoop_ret : Pushes cfg .kRunoutLoop []
  | kShowPart_loop : cfg.auto .holeCardsShowingOrMucking = true → Pushes cfg .kShowPart [.kShowLoop]
  | kShowPart_ret : Pushes cfg .kShowPart []
  | kShowLoop_op : Pushes cfg .kShowLoop [.opShow .none none, .kShowLoop]
  | kShowLoop_ret : Pushes cfg .kShowLoop []
  | endShow_deal : Pushes cfg .endShow [.beginDeal]
  | endShow_kill : Pushes cfg .endShow [.beginKill]
  | opRunout c i op : Pushes cfg (.opRunout c i) [.updShow (some op)]
  | opShow a i op : Pushes cfg (.opShow a i) [.updShow (some op)]
  | beginKill : Pushes cfg .beginKill [.updKill none]
  | updKill_end op : Pushes cfg (.updKill op) [.endKill]
  | updKill_loop op : cfg.auto .handKilling = true → Pushes cfg (.updKill op) [.kKillLoop]
  | updKill_ret op : Pushes cfg (.updKill op) []
  | kKillLoop_op : Pushes cfg .kKillLoop [.opKill none, .kKillLoop]
  | kKillLoop_ret : Pushes cfg .kKillLoop []
  | endKill : Pushes cfg .endKill [.beginPush]
  | opKill i op : Pushes cfg (.opKill i) [.updKill (some op)]
  | beginPush : Pushes cfg .beginPush [.updPush none]
  | updPush_end op : Pushes cfg (.updPush op) [.endPush]
  | updPush_loop op : cfg.auto .chipsPushing = true → Pushes cfg (.updPush op) [.kPushLoop]
  | updPush_ret op : Pushes cfg (.updPush op) []
  | kPushLoop_op : Pushes cfg .kPushLoop [.opPush, .kPushLoop]
  | kPushLoop_ret : Pushes cfg .kPushLoop []
  | endPush : Pushes cfg .endPush [.beginPull]
  | opPush op : Pushes cfg .opPush [.updPush (some op)]
  | beginPull : Pushes cfg .beginPull [.updPull none]
  | updPull_end op : Pushes cfg (.updPull op) [.endPull]
  | updPull_loop op : cfg.auto .chipsPulling = true → Pushes cfg (.updPull op) [.kPullLoop]
  | updPull_ret op : Pushes cfg (.updPull op) []
  | kPullLoop_op : Pushes cfg .kPullLoop [.opPull none, .kPullLoop]
  | kPullLoop_ret : Pushes cfg .kPullLoop []
  | endPull : Pushes cfg .endPull [.endHand]
  | opPull i op : Pushes cfg (.opPull i) [.updPull (some op)]
  | endHand : Pushes cfg .endHand []
  | opNoOp : Pushes cfg .opNoOp []

/-- the four parts together, so that the 56 arms are gone through once -/
theorem step_eq_out {m : M} {f : Ctl} {rest : List Ctl} (h : m.ctl = f :: rest) :
    (step cfg env m).st = (out cfg env m.st f).st ∧
    (step cfg env m).ctl = (out cfg env m.st f).err.elim ((out cfg env m.st f).ctl ++ rest) (fun _ => []) ∧
    (step cfg env m).err = ((out cfg env m.st f).err <|> m.err) ∧
    ((out cfg env m.st f).err = none → Pushes cfg f (out cfg env m.st f).ctl) := by
  unfold out
  -- both results under a name, so that each arm stands in the goal once and not once per mention (ten in all): every
  -- `split` below builds its motive from the whole goal, and the kernel checks each of them
  generalize ho : step cfg env ⟨m.st, [f], none, false⟩ = o
  generalize ho' : step cfg env m = o'
  revert ho ho'
  cases f
  -- the arms with conditionals inside their updates go in through the equations of Step.lean, which name the updates:
  -- `split` below would take those apart as well
  case' opCbr => rw [step_opCbr_eq h, step_opCbr_eq (m := ⟨m.st, [_], none, false⟩) rfl]
  case' endBet => rw [step_endBet_eq h, step_endBet_eq (m := ⟨m.st, [_], none, false⟩) rfl]
  case' beginShow => rw [step_beginShow_eq h, step_beginShow_eq (m := ⟨m.st, [_], none, false⟩) rfl]
  case' endShow => rw [step_endShow_eq h, step_endShow_eq (m := ⟨m.st, [_], none, false⟩) rfl]
  case' endCollect => rw [step_endCollect_eq h, step_endCollect_eq (m := ⟨m.st, [_], none, false⟩) rfl]
  case' beginDeal => rw [step_beginDeal_eq h, step_beginDeal_eq (m := ⟨m.st, [_], none, false⟩) rfl]
  case' opShow => rw [step_opShow_eq h, step_opShow_eq (m := ⟨m.st, [_], none, false⟩) rfl]
  case' opRunout => rw [step_opRunout_eq h, step_opRunout_eq (m := ⟨m.st, [_], none, false⟩) rfl]
  case' opDraw => rw [step_opDraw_eq h, step_opDraw_eq (m := ⟨m.st, [_], none, false⟩) rfl]
  case' opDealBoard => rw [step_opDealBoard_eq h, step_opDealBoard_eq (m := ⟨m.st, [_], none, false⟩) rfl]
  all_goals try rw [step_cons h]
  all_goals (
    dsimp only [M.step]
    (repeat' split) <;> rintro rfl rfl <;> refine ⟨rfl, rfl, rfl, fun h => ?_⟩ <;> first
      | (cases h; done)
      | (constructor; done)
      | (constructor; assumption)
      | skip)
  -- left over: the arm of `updDeal` under `cfg.auto .cardBurning && s.cardBurning`; its edge wants the first conjunct
  rename_i hb
  exact .updDeal_burn _ (Bool.and_eq_true_iff.1 hb).1

theorem out_pushes (s : State) (f : Ctl) (h : (out cfg env s f).err = none) : Pushes cfg f (out cfg env s f).ctl :=
  (step_eq_out (m := ⟨s, [f], none, false⟩) rfl).2.2.2 h

/-- the step ended in an exception -/
def M.halted (m : M) : Prop := m.ctl = [] ∧ ∃ e, m.err = some e

theorem step_ctl {m : M} {f : Ctl} {rest : List Ctl} (h : m.ctl = f :: rest) :
    (step cfg env m).halted ∨
    ∃ fs, Pushes cfg f fs ∧ (step cfg env m).ctl = fs ++ rest ∧ (step cfg env m).err = m.err := by
  obtain ⟨_, hc, he, hp⟩ := step_eq_out (cfg := cfg) (env := env) h
  cases ho : (out cfg env m.st f).err with
  | some e =>
    rw [ho] at hc he
    exact Or.inl ⟨hc, e, he⟩
  | none =>
    rw [ho] at hc he
    exact Or.inr ⟨_, hp ho, hc, he⟩

theorem pushes_of_clean {m : M} {f : Ctl} {rest : List Ctl} (hctl : m.ctl = f :: rest)
    (herr : (step cfg env m).err = none) : ∃ fs, Pushes cfg f fs ∧ (step cfg env m).ctl = fs ++ rest := by
  rcases step_ctl (cfg := cfg) (env := env) hctl with ⟨_, e, he⟩ | ⟨fs, hp, hfs, _⟩
  · rw [he] at herr; cases herr
  · exact ⟨fs, hp, hfs⟩

theorem step_err_or (m : M) : (step cfg env m).ctl = [] ∨ (step cfg env m).err = m.err := by
  cases hctl : m.ctl with
  | nil => left; rw [step_nil hctl]; exact hctl
  | cons f rest =>
    rcases step_ctl (cfg := cfg) (env := env) hctl with ⟨h0, _⟩ | ⟨_, _, _, he⟩
    · exact Or.inl h0
    · exact Or.inr he

theorem Pushes.tail_isK {f : Ctl} {fs : List Ctl} (hp : Pushes cfg f fs) : ∀ g ∈ fs.tail, g.isK = true :=
  List.all_eq_true.1 (by cases hp <;> rfl)

theorem step_head {m : M} {f g : Ctl} {rest r : List Ctl} (hk : ∀ x ∈ rest, x.isK = true) (hctl : m.ctl = f :: rest)
    (hc : (step cfg env m).ctl = g :: r) :
    (∀ x ∈ r, x.isK = true) ∧ (g.isK = true ∨ ∃ gs, Pushes cfg f (g :: gs) ∧ r = gs ++ rest) := by
  rcases step_ctl (cfg := cfg) (env := env) hctl with ⟨h0, _⟩ | ⟨fs, hp, hfs, _⟩
  · rw [h0] at hc; cases hc
  · rw [hfs] at hc
    cases fs with
    | nil =>
      subst hc
      exact ⟨fun x hx => hk x (.tail _ hx), .inl (hk g (.head _))⟩
    | cons x xs =>
      cases hc
      exact ⟨fun y hy => (List.mem_append.1 hy).elim (hp.tail_isK y) (hk y), .inr ⟨xs, hp, rfl⟩⟩

theorem step_refused {m : M} {f : Ctl} {rest : List Ctl} {e : Err}
    (hctl : m.ctl = f :: rest) (hop : f.isOp = true) (h : verifyOp cfg env m.st f = .error e) :
    step cfg env m = m.raise e := by
  cases f <;> cases hop <;> simp only [verifyOp, runoutPlumb] at h
  case' opShow => rw [step_opShow_eq hctl]
  case' opCbr => rw [step_opCbr_eq hctl]
  case' opRunout => rw [step_opRunout_eq hctl]
  case' opDraw => rw [step_opDraw_eq hctl]
  case' opDealBoard => rw [step_opDealBoard_eq hctl]
  all_goals try step_at hctl
  case opNoOp => cases h
  case opCollect | opCall | opBringIn | opPush => rw [h]
  all_goals rw [error_of_map h]

def Ctl.isUpd : Ctl → Bool
  | .updAnte _ | .updCollect _ | .updBlind _ | .updDeal _ | .updBet _ _ | .updShow _ | .updKill _
  | .updPush _ | .updPull _ => true
  | _ => false

/-- the record an `_update_*` frame is about to append -/
def Ctl.record? : Ctl → Option Operation
  | .updAnte o | .updCollect o | .updBlind o | .updDeal o | .updBet o _ | .updShow o | .updKill o
  | .updPush o | .updPull o => o
  | _ => none

/-- the `_end_*` method an `_update_*` method may call -/
def Ctl.endOf : Ctl → Ctl
  | .updAnte _ => .endAnte
  | .updCollect _ => .endCollect
  | .updBlind _ => .endBlind
  | .updDeal _ => .endDeal
  | .updBet _ _ => .endBet
  | .updShow _ => .endShow
  | .updKill _ => .endKill
  | .updPush _ => .endPush
  | .updPull _ => .endPull
  | f => f

/-- the test at the head of an `_update_*` method: the phase is over (betting also with one player left, or when
    `_begin_betting` found nobody to act; `_update_showdown` does nothing outside a street) -/
def Ctl.finished (cfg : Config) (s : State) : Ctl → Bool
  | .updAnte _ => !anyB s.antePosting
  | .updCollect _ => !s.betCollection
  | .updBlind _ => !anyB s.blindPosting
  | .updDeal _ => !s.cardBurning && !s.anyHoleDealing && !s.anyBoardDealing && !anyB s.standingPat
  | .updBet _ st => s.actors.isEmpty || s.liveCount ≤ 1 || st
  | .updShow _ => !(s.street cfg).isNone && (!anyB s.runoutSelectors && s.showdown.isEmpty)
  | .updKill _ => !anyB s.handKilling
  | .updPush _ => s.subPots.isEmpty
  | .updPull _ => !anyB s.chipsPulling
  | _ => false

theorem upd_step {m : M} {f : Ctl} {rest : List Ctl} (h : m.ctl = f :: rest) (hu : f.isUpd = true) :
    (step cfg env m).st = M.log m.st f.record? ∧ (step cfg env m).err = m.err ∧
    ∃ fs, Pushes cfg f fs ∧ (step cfg env m).ctl = fs ++ rest ∧
      (fs = [f.endOf] ↔ f.finished cfg (M.log m.st f.record?) = true) := by
  -- the result under a name, as in `step_eq_out`
  generalize hm' : step cfg env m = m'
  revert hm'
  cases f <;> first | (cases hu; done) | skip
  -- branch by branch: the edge taken (under its automation, if any), and it is the edge to `_end_*` iff the first
  -- test of the method passed
  case updShow op =>
    step_at h
    (repeat' split) <;> rintro rfl <;> refine ⟨rfl, rfl, _, ?_, rfl, ?_⟩
    all_goals first
      | (constructor; done)
      | (constructor; assumption)
      | simp [Ctl.finished, Ctl.endOf, Ctl.record?, *]
  all_goals (
    step_at h
    (repeat' split) <;> rintro rfl <;> refine ⟨rfl, rfl, _, ?_, rfl, ?_⟩
    all_goals first
      | (constructor; done)
      | (constructor; assumption)
      | exact .updDeal_burn _ (Bool.and_eq_true_iff.1 ‹_›).1
      | exact iff_of_true rfl ‹_›
      | exact iff_of_false nofun ‹_›)

/-- the record a frame appends to the log: the one an `_update_*` method was handed, and `no_operate`'s own -/
def Ctl.logs : Ctl → Option Operation
  | .opNoOp => some .noOperation
  | f => f.record?

theorem logs_nonop {f : Ctl} (h : f.isOp = false) : f.logs = f.record? := by
  cases f <;> first | rfl | cases h

theorem logs_op {o : Ctl} (h : o.isOp = true) : o = .opNoOp ∨ o.logs = none := by
  cases o <;> first | exact Or.inl rfl | exact Or.inr rfl | cases h

theorem ops_log (s : State) (op : Option Operation) : (M.log s op).ops = op.toList ++ s.ops := by
  cases op <;> rfl

theorem ops_step {m : M} {f : Ctl} {rest : List Ctl} (hctl : m.ctl = f :: rest) :
    (step cfg env m).st.ops = f.logs.toList ++ m.st.ops := by
  cases hu : f.isUpd with
  | true =>
    rw [(upd_step hctl hu).1, ops_log]
    cases f <;> first | rfl | cases hu
  | false =>
    cases f
    case opNoOp => step_at hctl; rfl
    all_goals first | exact step_view (·.ops) hctl (fun _ _ => rfl) | cases hu

end PK
