/-
  PK.Proofs.Frames — frame lemmas by projection view.  A view is a tuple of fields of the state; next to it stands
  the set of frames that may write one of them.  Every other micro-step leaves the view alone (whatever it does
  to the rest of the state, crashes included): an instance of `step_view`, checked frame by frame against
  `Ctl.restore`.  Each view serves one invariant over whole histories: `rv` `RunoutInv` (C14), `cv` `CardInv` (C06Step),
  `hv` `HoldInv` (C10Hold: hands, hole cards owed), `pv` `PushInv` (C01End), `bv` `PullInv` (C01End), `flv` `FlagsLen`
  (C07Offers), `bdv` the board count (C10Board), `tv` `RoundInv` (C03Round), `sv` `ShowStreet` (C07Live).
-/
import PK.Proofs.Step
namespace PK
open State M

variable {cfg : Config} {env : Env}

/-- how the frame lemmas are used: a property of the state that only looks at a view is kept by every micro-step once
    it is kept by the view's writers -/
theorem step_writers {α : Type} {v : State → α} {W : Ctl → Bool} {Q : State → Prop} {m : M}
    (frame : ∀ f rest, m.ctl = f :: rest → W f = false → v (step cfg env m).st = v m.st)
    (hv : v (step cfg env m).st = v m.st → Q (step cfg env m).st)
    (hw : ∀ f rest, m.ctl = f :: rest → W f = true → Q (step cfg env m).st) : Q (step cfg env m).st := by
  cases hctl : m.ctl with
  | nil => exact hv (by rw [step_nil hctl])
  | cons f rest =>
    cases hf : W f
    · exact hv (frame f rest hctl hf)
    · exact hw f rest hctl hf

/-! The run-out bookkeeping: written by `_begin_showdown`, `select_runout_count`, `_end_showdown` and a muck in
    `show_or_muck_hole_cards` (which withdraws the mucking player's pending choice).  `streetReturnCount`, which
    `_end_showdown` sets together with `streetReturnIndex`, is left out: `RunoutInv` says nothing about it, and with it
    `_end_bet_collection`, which counts it down, would be one more writer. -/

structure RV where
  sel : List Bool
  cnt : Option Int
  flag : Bool
  ret : Option Int
deriving DecidableEq

def rv (s : State) : RV := ⟨s.runoutSelectors, s.runoutCount, s.runoutFlag, s.streetReturnIndex⟩

def Ctl.writesRunout : Ctl → Bool
  | .beginShow | .opRunout _ _ | .endShow | .opShow _ _ => true
  | _ => false

theorem rv_frame (m : M) (f : Ctl) (rest : List Ctl) (hctl : m.ctl = f :: rest)
    (hf : f.writesRunout = false) : rv (step cfg env m).st = rv m.st := by
  refine step_view rv hctl fun _ _ => ?_
  -- with both tables unfolded the two sides coincide; a bare `rfl` unfolds `Ctl.restore` once for every field of the view
  cases f <;> cases hf <;> dsimp only [Ctl.restore, rv]

theorem rv_show (m : M) (a : ShowArg) (i : Option Nat) (rest : List Ctl) (hctl : m.ctl = .opShow a i :: rest) :
    rv (step cfg env m).st = rv m.st ∨
      ∃ v, m.st.verifyShow cfg env a i = .ok v ∧ v.val.status = false ∧
        rv (step cfg env m).st = { rv m.st with sel := (rv m.st).sel.set v.val.player false } := by
  refine step_show (P := fun s' => rv s' = rv m.st ∨ ∃ v, m.st.verifyShow cfg env a i = .ok v ∧ v.val.status = false ∧
    rv s' = { rv m.st with sel := (rv m.st).sel.set v.val.player false })
    hctl (.inl rfl) (fun _ => by rw [offQueue_eq]; exact .inl rfl) fun hv _ hs => ?_
  rcases showOrMuck_ok hs with ⟨_, e⟩ | ⟨hst, s₁, hm, e⟩
  · rw [e, offQueue_eq]; exact Or.inl rfl
  · rw [e, muckHoleCards_ok hm, offQueue_eq]; exact Or.inr ⟨_, hv, hst, rfl⟩

theorem rv_opShow (m : M) (a : ShowArg) (i : Option Nat) (rest : List Ctl)
    (hctl : m.ctl = .opShow a i :: rest) :
    rv (step cfg env m).st = rv m.st ∨
      ∃ p, rv (step cfg env m).st = { rv m.st with sel := (rv m.st).sel.set p false } :=
  (rv_show m a i rest hctl).imp_right fun ⟨_, _, _, e⟩ => ⟨_, e⟩

/-! The six places a card can be: written by the seven card operations. -/

structure CV where
  deck : List Card
  board : List (List Card)
  hole : List (List Card)
  burned : List Card
  mucked : List Card
  discarded : List (List Card)
deriving DecidableEq

def cv (s : State) : CV := ⟨s.deck, s.board, s.hole, s.burned, s.mucked, s.discarded⟩

def Ctl.writesCards : Ctl → Bool
  | .opBurn _ | .opDealHole _ _ | .opDealBoard _ | .opDraw _ | .opFold | .opKill _ | .opShow _ _ => true
  | _ => false

theorem cv_frame (m : M) (f : Ctl) (rest : List Ctl) (hctl : m.ctl = f :: rest)
    (hf : f.writesCards = false) : cv (step cfg env m).st = cv m.st := by
  refine step_view cv hctl fun _ _ => ?_
  cases f <;> cases hf <;> dsimp only [Ctl.restore, cv]

/-! The hands, the hole cards owed and who is in the hand: `_begin_dealing` books what the street owes, `deal_hole`
    and a discard turn cards owed into cards held and back, a muck (fold, kill, show) or a show of named cards
    changes a hand. -/

structure HV where
  hole : List (List Card)
  holeDealing : List (List Bool)
  statuses : List Bool
deriving DecidableEq

def hv (s : State) : HV := ⟨s.hole, s.holeDealing, s.statuses⟩

def Ctl.writesHold : Ctl → Bool
  | .beginDeal | .opDealHole _ _ | .opDraw _ | .opFold | .opKill _ | .opShow _ _ => true
  | _ => false

theorem hv_frame (m : M) (f : Ctl) (rest : List Ctl) (hctl : m.ctl = f :: rest)
    (hf : f.writesHold = false) : hv (step cfg env m).st = hv m.st := by
  refine step_view hv hctl fun _ _ => ?_
  cases f <;> cases hf <;> dsimp only [Ctl.restore, hv]

/-! The frozen pots and the queue of sub-pots still to push: `_begin_chips_pushing` freezes the pots and fills the
    queue, `push_chips` takes the first sub-pot off the queue and out of its pot. -/

structure PV where
  pots : Option (List Pot)
  subs : List SubPot

def pv (s : State) : PV := ⟨s.pots_, s.subPots⟩

def Ctl.writesPots : Ctl → Bool
  | .beginPush | .opPush => true
  | _ => false

theorem pv_frame (m : M) (f : Ctl) (rest : List Ctl) (hctl : m.ctl = f :: rest)
    (hf : f.writesPots = false) : pv (step cfg env m).st = pv m.st := by
  refine step_view pv hctl fun _ _ => ?_
  cases f <;> cases hf <;> dsimp only [Ctl.restore, pv]

/-! The bets and the pull flags: written by whatever moves chips to or from the bets, and by the two ends of chips
    pulling, which raise and lower the flags. -/

structure BV where
  bets : List Int
  pulling : List Bool
deriving DecidableEq

def bv (s : State) : BV := ⟨s.bets, s.chipsPulling⟩

def Ctl.writesBets : Ctl → Bool
  | .opPostAnte _ | .opPostBlind _ | .opCall | .opBringIn | .opCbr _ | .opCollect | .opPush | .opPull _
  | .beginPull | .endPull => true
  | _ => false

theorem bv_frame (m : M) (f : Ctl) (rest : List Ctl) (hctl : m.ctl = f :: rest)
    (hf : f.writesBets = false) : bv (step cfg env m).st = bv m.st := by
  refine step_view bv hctl fun _ _ => ?_
  cases f <;> cases hf <;> dsimp only [Ctl.restore, bv]

/-! The per-player flag lists (antes, blinds, kills, pulls, run-out choices); `FlagsLen` needs their lengths only. -/

structure FLV where
  ante : List Bool
  blind : List Bool
  kill : List Bool
  pull : List Bool
  sel : List Bool

def flv (s : State) : FLV := ⟨s.antePosting, s.blindPosting, s.handKilling, s.chipsPulling, s.runoutSelectors⟩

def Ctl.writesFlags : Ctl → Bool
  | .beginAnte | .opPostAnte _ | .beginBlind | .opPostBlind _ | .beginShow | .opRunout _ _ | .opShow _ _
  | .beginKill | .endKill | .opKill _ | .beginPull | .endPull | .opPull _ => true
  | _ => false

theorem flv_frame (m : M) (f : Ctl) (rest : List Ctl) (hctl : m.ctl = f :: rest)
    (hf : f.writesFlags = false) : flv (step cfg env m).st = flv m.st := by
  refine step_view flv hctl fun _ _ => ?_
  cases f <;> cases hf <;> dsimp only [Ctl.restore, flv]

/-! The boards and the cards still owed to each: `_begin_dealing` books what the street owes, `deal_board` lays cards
    out. -/

structure BDV where
  board : List (List Card)
  owed : List Int

def bdv (s : State) : BDV := ⟨s.board, s.boardDealing⟩

def Ctl.writesBoard : Ctl → Bool
  | .beginDeal | .opDealBoard _ => true
  | _ => false

theorem bdv_frame (m : M) (f : Ctl) (rest : List Ctl) (hctl : m.ctl = f :: rest)
    (hf : f.writesBoard = false) : bdv (step cfg env m).st = bdv m.st := by
  refine step_view bdv hctl fun _ _ => ?_
  cases f <;> cases hf <;> dsimp only [Ctl.restore, bdv]

/-! The queue of actors, the chips, who is in the hand and the bring-in flag, of which `RoundInv` speaks during a
    betting round: written by whatever moves chips or takes a player out of the hand, and by the two ends of the
    round. -/

structure TV where
  actors : List Nat
  bets : List Int
  stacks : List Int
  statuses : List Bool
  bring : Bool
deriving DecidableEq

def tv (s : State) : TV := ⟨s.actors, s.bets, s.stacks, s.statuses, s.bringInStatus⟩

def Ctl.writesTable : Ctl → Bool
  | .opPostAnte _ | .opPostBlind _ | .opCall | .opBringIn | .opCbr _ | .opCollect | .opPush | .opPull _
  | .opFold | .opKill _ | .opShow _ _ | .beginBet | .endBet => true
  | _ => false

theorem tv_frame (m : M) (f : Ctl) (rest : List Ctl) (hctl : m.ctl = f :: rest)
    (hf : f.writesTable = false) : tv (step cfg env m).st = tv m.st := by
  refine step_view tv hctl fun _ _ => ?_
  cases f <;> cases hf <;> dsimp only [Ctl.restore, tv]

/-! The work pending in a showdown (run-out choices, the showdown queue) and the street index: `ShowStreet` says the
    former is there only on a street, and `_begin_dealing`, `_end_bet_collection` (back for the next run-out) and
    `_begin_chips_pushing` (which leaves the streets) move the index. -/

structure SV where
  sel : List Bool
  showdown : List Nat
  streetIndex : Option Int
deriving DecidableEq

def sv (s : State) : SV := ⟨s.runoutSelectors, s.showdown, s.streetIndex⟩

def Ctl.writesShow : Ctl → Bool
  | .beginShow | .opRunout _ _ | .opShow _ _ | .beginDeal | .endCollect | .beginPush => true
  | _ => false

theorem sv_frame (m : M) (f : Ctl) (rest : List Ctl) (hctl : m.ctl = f :: rest)
    (hf : f.writesShow = false) : sv (step cfg env m).st = sv m.st := by
  refine step_view sv hctl fun _ _ => ?_
  cases f <;> cases hf <;> dsimp only [Ctl.restore, sv]

end PK
