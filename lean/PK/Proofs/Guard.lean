/-
  PK.Proofs.Guard — reading a verifier: pokerkit's `if … : raise …` / `elif … : return msg` chains become
  `if c then .error e else …` (`some e` for the configuration check), and a result mapped with `Except.map`.
-/
namespace PK

theorem ite_some_eq_none {α : Type} {p : Prop} [Decidable p] {e : α} {x : Option α} :
    (if p then some e else x) = none ↔ ¬ p ∧ x = none := by
  split <;> simp [*]

theorem ite_error_eq_ok {ε α : Type} {c : Prop} [Decidable c] {e : ε} {x : Except ε α} {a : α} :
    (if c then .error e else x) = .ok a ↔ ¬c ∧ x = .ok a := by
  split <;> simp [*]

theorem not_of_guard {ε α : Type} {c : Prop} [Decidable c] {e : ε} {r : Except ε α} {a : α}
    (h : (if c then .error e else r) = .ok a) : ¬c :=
  (ite_error_eq_ok.1 h).1

theorem of_guard {ε α : Type} {c : Prop} [Decidable c] {e : ε} {r : Except ε α} {a : α}
    (h : (if c then .error e else r) = .ok a) : r = .ok a :=
  (ite_error_eq_ok.1 h).2

theorem error_of_map {ε α β : Type} {x : Except ε α} {g : α → β} {e : ε} (h : x.map g = .error e) :
    x = .error e := by
  cases x <;> cases h
  rfl

theorem of_map_ok {ε α β : Type} {x : Except ε α} {g : α → β} {b : β} {P : Prop} (h : x.map g = .ok b)
    (k : ∀ a, x = .ok a → P) : P := by
  cases x
  · cases h
  · exact k _ rfl

end PK
