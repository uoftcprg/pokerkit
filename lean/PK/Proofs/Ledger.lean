/-
  PK.Proofs.Ledger — what the steps that move chips rest on: `Ledger` reads six fields of the state only
  (`chipView`), which the log and `produceCards` leave alone; the bring-in `effectiveBringInAmount` hands out
  (`bringInAmount_spec`); and what a successful `pushChips` does (`pushChips_ok`).
-/
import PK.Spec.Ledger
import PK.Proofs.ListLemmas
namespace PK
open State M

variable {cfg : Config} {env : Env}

def chipView (s : State) : List Int × List Int × List Int × Option (List Pot) × List SubPot × Option Int :=
  (s.stacks, s.bets, s.payoffs, s.pots_, s.subPots, s.runoutCount)

theorem Ledger.of_view {s s' : State} (h : Ledger cfg s) (hv : chipView s' = chipView s) :
    Ledger cfg s' := by
  simp only [chipView, Prod.mk.injEq] at hv
  obtain ⟨h1, h2, h3, h4, h5, h6⟩ := hv
  exact ⟨h1 ▸ h.lenStacks, h2 ▸ h.lenBets, h3 ▸ h.lenPayoffs, h1 ▸ h.nonnegStacks, h2 ▸ h.nonnegBets,
    h1 ▸ h3 ▸ h.payoffDef, h1 ▸ h2 ▸ h4 ▸ h.frozen, h5 ▸ h.subNonneg, h6 ▸ h.runoutOk⟩

@[simp] theorem chipView_log (s : State) (op) : chipView (M.log s op) = chipView s := by
  cases op <;> rfl


theorem Ledger.log {s : State} (h : Ledger cfg s) (op) : Ledger cfg (M.log s op) :=
  h.of_view (chipView_log s op)

@[simp] theorem chipView_produceCards (s : State) (cs : List Card) :
    chipView (s.produceCards cs) = chipView s := rfl

section fields
variable (s : State) (cs : List Card)
@[simp] theorem produceCards_stacks : (s.produceCards cs).stacks = s.stacks := rfl
@[simp] theorem produceCards_bets : (s.produceCards cs).bets = s.bets := rfl
@[simp] theorem produceCards_payoffs : (s.produceCards cs).payoffs = s.payoffs := rfl
@[simp] theorem produceCards_pots : (s.produceCards cs).pots_ = s.pots_ := rfl
@[simp] theorem produceCards_subPots : (s.produceCards cs).subPots = s.subPots := rfl
@[simp] theorem produceCards_runoutCount : (s.produceCards cs).runoutCount = s.runoutCount := rfl
end fields

theorem actorIndex_cons {s : State} {p : Nat} {rest : List Nat} (ha : s.actors = p :: rest)
    {q : Option Nat} (h : s.actorIndex = .ok q) : q = some p := by
  unfold State.actorIndex at h
  rw [ha] at h
  simp only at h
  split at h <;> cases h
  rfl

theorem bringInAmount_spec {s : State} {amount : Int} {p : Nat} {rest : List Nat}
    (h1 : s.effectiveBringInAmount cfg = .ok (some amount)) (h2 : s.actors = p :: rest) :
    amount = min (getI s.stacks p) cfg.bringIn := by
  unfold State.effectiveBringInAmount at h1
  split at h1
  · cases h1
  · split at h1
    · cases h1
    · cases h1
    · next q hq =>
      cases actorIndex_cons h2 hq
      cases h1
      rfl

/-- A successful `push_chips`: the sub-pot's amount leaves the unraked part of its pot and goes into the bets,
    whole to the only eligible player when one player is left in the hand, otherwise by `awardShares` to the
    eligible players whose shown hand is the best among the eligible. -/
theorem pushChips_ok {s s' : State} {ps : List Pot} {sp : SubPot} {sps : List SubPot} {op : Operation}
    (h : pushChips cfg env s ps sp sps = .ok (s', op)) :
    ∃ pot bets, ps[sp.pot]? = some pot ∧ 0 ≤ pot.unraked - sp.amount ∧
      s' = { s with subPots := sps, bets := bets,
                    pots_ := some (ps.set sp.pot { pot with unraked := pot.unraked - sp.amount }) } ∧
      op = .chipsPushing ((playerIndices cfg).map fun i => getI bets i - getI s.bets i)
        sp.pot sp.board sp.handType ∧
      ((s.liveCount = 1 ∧ sp.board = none ∧ sp.handType = none ∧
          ∃ w, pot.players = [w] ∧ bets = s.bets.set w (getI s.bets w + sp.amount)) ∨
       (s.liveCount ≠ 1 ∧ ∃ b k hands q r, sp.board = some b ∧ sp.handType = some k ∧
          (b : Int) < s.boardCount cfg ∧ k < cfg.handTypes.length ∧ s.getUpHands cfg env b k = .ok hands ∧
          let winners := pot.players.filter fun i =>
            hands.getD i none == maxOrNone (pot.players.map fun i => hands.getD i none)
          State.divmod cfg sp.amount winners.length = .ok (q, r) ∧
          (∀ i ∈ winners, getB s.statuses i = true) ∧ bets = awardShares winners q r s.bets)) := by
  unfold pushChips at h
  split at h
  · cases h
  next pot hpot =>
  extract_lets pot' s1 at h
  split at h
  · cases h
  next hun =>
  have hun : 0 ≤ pot.unraked - sp.amount := Int.not_lt.1 hun
  -- the tests that follow read the state `s1` with the sub-pot taken out: the same as `s` but for `subPots`, `pots_`
  have hlc : s1.liveCount = s.liveCount := rfl
  refine ⟨pot, ?_⟩
  split at h
  · next hl =>
    split at h
    · next w hw =>
      split at h
      · cases h
      next hnone =>
      cases h
      simp only [Bool.or_eq_true, Option.isSome_iff_ne_none, not_or, Decidable.not_not] at hnone
      exact ⟨_, hpot, hun, rfl, by rw [hnone.1, hnone.2],
        .inl ⟨hlc ▸ eq_of_beq hl, hnone.1, hnone.2, w, hw, rfl⟩⟩
    · cases h
  · next hl =>
    split at h
    · next b k hb hk =>
      split at h
      · cases h
      next hbk =>
      split at h
      · cases h
      next hands hhands =>
      extract_lets maxHand winners at h
      split at h
      · cases h
      next q r hdm =>
      split at h
      · cases h
      next hlive =>
      cases h
      simp only [Bool.not_eq_true', Bool.not_eq_false, Bool.and_eq_true, decide_eq_true_eq] at hbk
      refine ⟨_, hpot, hun, rfl, by rw [hb, hk], .inr ⟨fun e => hl (by rw [hlc, e]; rfl),
        b, k, hands, q, r, hb, hk, hbk.1, hbk.2, hhands, hdm, fun i hi => ?_, rfl⟩⟩
      have : ¬ (!getB s.statuses i) = true := fun hd => hlive (List.any_eq_true.2 ⟨i, hi, hd⟩)
      simpa using this
    · cases h

end PK
