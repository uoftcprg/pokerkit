/-
  PK.Proofs.LedgerStep — `Ledger` is preserved by the ten frames that write a chip field (stacks, bets, payoffs,
  frozen pots, sub-pot queue, run-out count): a lemma for each, except that the two posting frames share `Ledger.post`
  and are opened in `C01_step` (PK.Properties.C01), where the lemmas are put together and every other frame is shown
  to leave `chipView` alone.
-/
import PK.Proofs.PushSum
import PK.Proofs.Pots
import PK.Proofs.Validate
import PK.Properties.C03
namespace PK
open State M

variable {cfg : Config} {env : Env}

/-- the shape of every chip-moving operation: player `p` ends with stack `x`, bet `y`, payoff `z`; stack + bet and
    payoff − stack are what they were -/
theorem Ledger.move {s s' : State} (h : Ledger cfg s) (p : Nat) {x y z : Int}
    (hv : chipView s' = chipView { s with stacks := s.stacks.set p x, bets := s.bets.set p y,
                                          payoffs := s.payoffs.set p z })
    (hx : p < cfg.n → 0 ≤ x) (hy : p < cfg.n → 0 ≤ y) (hxy : x + y = getI s.stacks p + getI s.bets p)
    (hz : z - x = getI s.payoffs p - getI s.stacks p) : Ledger cfg s' := by
  refine (?_ : Ledger cfg _).of_view hv
  by_cases hp : p < cfg.n
  · have hs : p < s.stacks.length := h.lenStacks ▸ hp
    have hb : p < s.bets.length := h.lenBets ▸ hp
    have hpl : p < s.payoffs.length := h.lenPayoffs ▸ hp
    refine { h with
      lenStacks := (List.length_set ..).trans h.lenStacks, lenBets := (List.length_set ..).trans h.lenBets
      lenPayoffs := (List.length_set ..).trans h.lenPayoffs
      nonnegStacks := fun i hi => ?_, nonnegBets := fun i hi => ?_, payoffDef := fun i hi => ?_
      frozen := fun ps hps => ?_ }
    · show 0 ≤ getI (s.stacks.set p x) i
      rw [getI_set _ _ _ _ hs]
      split
      · exact hx hp
      · exact h.nonnegStacks i hi
    · show 0 ≤ getI (s.bets.set p y) i
      rw [getI_set _ _ _ _ hb]
      split
      · exact hy hp
      · exact h.nonnegBets i hi
    · show getI (s.payoffs.set p z) i = getI (s.stacks.set p x) i - _
      rw [getI_set _ _ _ _ hs, getI_set _ _ _ _ hpl]
      split
      · next hpi => subst hpi; have := h.payoffDef p hp; omega
      · exact h.payoffDef i hi
    · obtain ⟨hok, hsum⟩ := h.frozen ps hps
      refine ⟨hok, ?_⟩
      show sumI (s.stacks.set p x) + sumI (s.bets.set p y) + _ = _
      rw [sumI_set _ _ _ hs, sumI_set _ _ _ hb]
      omega
  · -- a seat that does not exist: nothing is written
    refine h.of_view ?_
    show (s.stacks.set p x, s.bets.set p y, s.payoffs.set p z, _) = _
    rw [List.set_eq_of_length_le (by rw [h.lenStacks]; omega), List.set_eq_of_length_le (by rw [h.lenBets]; omega),
      List.set_eq_of_length_le (by rw [h.lenPayoffs]; omega)]
    rfl

/-- `post_ante` and `post_blind_or_straddle`: a positive amount the stack covers goes in front of a player who
    has nothing there (`hb`, `hst` in the form the two arms test them) -/
theorem Ledger.post {s s' : State} (h : Ledger cfg s) {p : Nat} {a : Int} (hb : ¬(getI s.bets p != 0) = true)
    (hst : ¬(!(decide (0 < a) && decide (a ≤ getI s.stacks p))) = true)
    (hv : chipView s' = chipView { s with bets := s.bets.set p a, stacks := s.stacks.set p (getI s.stacks p - a),
                                          payoffs := s.payoffs.set p (getI s.payoffs p - a) }) : Ledger cfg s' := by
  simp only [bne_iff_ne, ne_eq, Decidable.not_not, Bool.not_and, Bool.or_eq_true, Bool.not_eq_eq_eq_not,
    Bool.not_true, decide_eq_false_iff_not, Int.not_lt, Int.not_le, not_or] at hb hst
  exact h.move p hv (fun _ => by omega) (fun _ => by omega) (by omega) (by omega)

theorem ledger_opCall (m : M) (h : Ledger cfg m.st) (rest : List Ctl)
    (hctl : m.ctl = .opCall :: rest) : Ledger cfg (step cfg env m).st := by
  step_at hctl
  split
  · exact h
  · split
    · rename_i amount p actors hamt hact
      have hspec := C03_call_amount hamt hact
      refine h.move p rfl (fun _ => by omega) (fun hp => ?_) (by omega) (by omega)
      have h1 := h.nonnegBets p hp
      have h2 := h.nonnegStacks p hp
      have h3 := getI_le_maxI m.st.bets p (by rw [h.lenBets]; exact hp)
      omega
    · exact h
    · exact h

theorem ledger_opBringIn (hc : 0 ≤ cfg.bringIn) (m : M) (h : Ledger cfg m.st) (rest : List Ctl)
    (hctl : m.ctl = .opBringIn :: rest) : Ledger cfg (step cfg env m).st := by
  step_at hctl
  split
  · exact h
  · split
    · rename_i amount p actors hamt hact
      have hspec := bringInAmount_spec hamt hact
      split
      · exact h.of_view rfl
      · refine h.move p rfl (fun _ => by omega) (fun hp => ?_) (by omega) (by omega)
        have h1 := h.nonnegBets p hp
        have h2 := h.nonnegStacks p hp
        omega
    · exact h
    · exact h

theorem ledger_opPull (m : M) (h : Ledger cfg m.st) (i : Option Nat) (rest : List Ctl)
    (hctl : m.ctl = .opPull i :: rest) : Ledger cfg (step cfg env m).st := by
  step_at hctl
  split
  · exact h
  · rename_i p _
    refine h.move p rfl (fun hp => ?_) (fun _ => Int.le_refl 0) (by omega) (by omega)
    have := h.nonnegBets p hp
    have := h.nonnegStacks p hp
    omega

theorem street_mem {s : State} {st : Street} (h : s.street cfg = some st) : st ∈ cfg.streets := by
  unfold State.street at h
  split at h
  · cases h
  · split at h
    · exact List.mem_of_getElem? h
    · cases h

theorem minBet_pos (hc : CfgOk cfg) {st : Street} (h : st ∈ cfg.streets) : 0 < st.minBet := by
  have := hc.streets st h
  simp only [Street.validate, ite_some_eq_none] at this
  omega

theorem effectiveStack_nonneg {s : State} {i : Nat} {e : Int} (hl : Ledger cfg s) (hi : i < cfg.n)
    (h : s.effectiveStack cfg i = .ok e) : 0 ≤ e ∧ e ≤ getI s.stacks i := by
  unfold State.effectiveStack at h
  have := hl.nonnegStacks i hi
  split at h
  · cases h; omega
  · dsimp only at h
    split at h
    · cases h
    · cases h; omega

theorem maxCbrTo_le {s : State} {p : Nat} {mx : Int} (hv : s.verifyCbr0 cfg = .ok p)
    (h : s.maxCbrTo cfg = .ok (some mx)) : mx ≤ getI s.stacks p + getI s.bets p := by
  unfold State.maxCbrTo at h
  simp only [hv] at h
  split at h
  · cases h
  · cases h
  · split at h
    · cases h; assumption
    · cases h

theorem verifyCbr_bounds {s : State} {amount : Option Int} {a : Int} (h : s.verifyCbr cfg amount = .ok a) :
    ∃ p mn mx, s.verifyCbr0 cfg = .ok p ∧ s.minCbrTo cfg = .ok (some mn) ∧ s.maxCbrTo cfg = .ok (some mx) ∧
      mn ≤ a ∧ a ≤ mx := by
  unfold State.verifyCbr at h
  split at h
  · cases h
  · rename_i p hp
    split at h
    · cases h
    · cases h
    · cases h
    · cases h
    · rename_i mn mx hmn hmx
      dsimp only at h
      split at h
      · cases h
      · split at h
        · cases h
        · cases h
          exact ⟨p, mn, mx, hp, hmn, hmx, by omega, by omega⟩

theorem verifyCbr_spec (hc : CfgOk cfg) {s : State} {p : Nat} {rest : List Nat} {amount : Option Int}
    {a : Int} (hl : Ledger cfg s) (ha : s.actors = p :: rest) (hp : p < cfg.n)
    (h : s.verifyCbr cfg amount = .ok a) : 0 ≤ a ∧ a ≤ getI s.stacks p + getI s.bets p := by
  obtain ⟨q, mn, mx, hq, hmn, hmx, h1, h2⟩ := verifyCbr_bounds h
  obtain ⟨tail, st, ha', -, hst, -⟩ := verifyCbr0_ok hq
  cases ha.symm.trans ha'
  obtain ⟨eff, he, rfl⟩ := minCbrTo_ok hq hst hmn
  have := effectiveStack_nonneg hl hp he
  have := minBet_pos hc (street_mem hst)
  have := hl.nonnegBets p hp
  have := getI_le_maxI s.bets p (hl.lenBets ▸ hp)
  have := maxCbrTo_le hq hmx
  split at h1 <;> omega

theorem ledger_opCbr (hc : CfgOk cfg) (m : M) (h : Ledger cfg m.st) (amount : Option Int) (rest : List Ctl)
    (hctl : m.ctl = .opCbr amount :: rest) : Ledger cfg (step cfg env m).st := by
  rw [step_opCbr_eq hctl]
  split
  · exact h
  · rename_i a hv
    split
    · exact h
    · rename_i p actors hact
      have key : Ledger cfg (m.st.raiseTo p a) := by
        refine h.move p rfl (fun hp => ?_) (fun hp => ?_) (by omega) (by omega)
        · have := verifyCbr_spec hc h hact hp hv; omega
        · have := verifyCbr_spec hc h hact hp hv; omega
      dsimp only
      split
      · exact key.of_view rfl
      · refine key.of_view ?_
        simp only [State.bookRaise, cont_st]
        split <;> split <;> rfl

theorem verifyRunout_pos {s : State} {c : Option Int} {i : Option Nat} {p : Nat}
    (h : s.verifyRunoutCountSelection cfg c i = .ok p) : ∀ k, c = some k → 1 ≤ k := by
  rintro k rfl
  simp only [State.verifyRunoutCountSelection, ite_error_eq_ok] at h
  simpa using h.2.2.2.1

theorem Ledger.setRunout {s : State} (h : Ledger cfg s) (c : Option Int) (hc : ∀ k, c = some k → 1 ≤ k) :
    Ledger cfg { s with runoutCount := c } :=
  { h with runoutOk := hc }

theorem ledger_opRunout (m : M) (h : Ledger cfg m.st) (count : Option Int) (i : Option Nat) (rest : List Ctl)
    (hctl : m.ctl = .opRunout count i :: rest) : Ledger cfg (step cfg env m).st := by
  rw [step_opRunout_eq hctl]
  split
  · exact h
  · rename_i p hp
    exact (h.setRunout _ (consensusStep_pos h.runoutOk (verifyRunout_pos hp))).of_view rfl

theorem refundStep_pos {cutoff : Int} {s0 : State} {b0 : List Int} {i : Nat}
    (h : getI s0.bets i > cutoff) :
    refundStep cutoff (s0, b0) i =
      ({ s0 with stacks := s0.stacks.set i (getI s0.stacks i + (getI s0.bets i - cutoff))
                 payoffs := s0.payoffs.set i (getI s0.payoffs i + (getI s0.bets i - cutoff)) },
       b0.set i cutoff) := by
  simp [refundStep, h]

theorem refundStep_neg {cutoff : Int} {s0 : State} {b0 : List Int} {i : Nat}
    (h : ¬ getI s0.bets i > cutoff) : refundStep cutoff (s0, b0) i = (s0, b0) := by
  simp [refundStep, h]

/-- the uncalled part of a bet goes back: with no pots frozen the ledger only asks that stack and payoff move
    together -/
theorem Ledger.refund {s : State} (h : Ledger cfg s) (hn : s.pots_ = none) (i : Nat) {d : Int} (hd : 0 ≤ d) :
    Ledger cfg { s with stacks := s.stacks.set i (getI s.stacks i + d)
                        payoffs := s.payoffs.set i (getI s.payoffs i + d) } := by
  refine { h with
    lenStacks := (List.length_set ..).trans h.lenStacks, lenPayoffs := (List.length_set ..).trans h.lenPayoffs
    nonnegStacks := fun j hj => ?_, payoffDef := fun j hj => ?_, frozen := fun _ hps => nomatch hn.symm.trans hps }
  · have := h.nonnegStacks j hj
    simp only [getI_set']
    split
    · rename_i e; obtain ⟨rfl, _⟩ := e; omega
    · exact this
  · have := h.payoffDef j hj
    simp only [getI_set', h.lenStacks, h.lenPayoffs]
    split
    · rename_i e; obtain ⟨rfl, _⟩ := e; omega
    · exact this

theorem Ledger.setBets {s : State} (h : Ledger cfg s) (hn : s.pots_ = none) {b : List Int} (hl : b.length = cfg.n)
    (h0 : ∀ j, j < cfg.n → 0 ≤ getI b j) : Ledger cfg { s with bets := b } :=
  { h with lenBets := hl, nonnegBets := h0, frozen := fun _ hps => nomatch hn.symm.trans hps }

/-- `collect_bets` runs with no pots frozen, when `Ledger` has no sum to keep (the chips in the pots are by definition
    `inPots`): it is enough that the refund loop moves stack and payoff together (`hr`, by `Ledger.refund`) and that
    zeroing the collected bets keeps the length and leaves no bet negative (`hz`, by `Ledger.setBets`) -/
theorem collectBets_ledger {s : State} (h : Ledger cfg s) (hfz : s.pots_ = none) :
    Ledger cfg (collectBets cfg s).1 := by
  unfold collectBets
  generalize hs1 : ({ s with betCollection := false } : State) = s1
  have h1 : Ledger cfg s1 ∧ s1.pots_ = none := by subst hs1; exact ⟨h.of_view rfl, hfz⟩
  clear hs1 h hfz
  simp only []
  generalize collectPlayers cfg s1 = pb
  have hr (b0 : List Int) : Ledger cfg (pb.1.foldl (refundStep (betCutoff s1.bets)) (s1, b0)).1 ∧
      (pb.1.foldl (refundStep (betCutoff s1.bets)) (s1, b0)).1.pots_ = none := by
    refine List.foldlRecOn (motive := fun acc : State × List Int => Ledger cfg acc.1 ∧ acc.1.pots_ = none)
      pb.1 _ h1 fun acc hacc i _ => ?_
    unfold refundStep
    split
    · exact ⟨hacc.1.refund hacc.2 i (by omega), hacc.2⟩
    · exact hacc
  have hz (sb : State × List Int) (hsb : Ledger cfg sb.1 ∧ sb.1.pots_ = none) :
      Ledger cfg { sb.1 with bets := pb.1.foldl (fun b i => b.set i 0) sb.1.bets } := by
    obtain ⟨hl, h0⟩ := List.foldlRecOn
      (motive := fun b : List Int => b.length = cfg.n ∧ ∀ j, j < cfg.n → 0 ≤ getI b j)
      pb.1 (fun b i => b.set i 0) ⟨hsb.1.lenBets, hsb.1.nonnegBets⟩ fun b hb i _ =>
        ⟨(List.length_set ..).trans hb.1, fun j hj => by
          rw [getI_set']
          split
          · exact Int.le_refl 0
          · exact hb.2 j hj⟩
    exact hsb.1.setBets hsb.2 hl h0
  split
  · exact hz _ (hr _)
  · exact hz _ h1

theorem ledger_opCollect (m : M) (h : Ledger cfg m.st) (hb : m.st.pots_.isSome = true → m.st.betCollection = false)
    (rest : List Ctl) (hctl : m.ctl = .opCollect :: rest) : Ledger cfg (step cfg env m).st := by
  step_at hctl
  split
  · exact h
  · rename_i hv
    split
    · exact h
    · refine collectBets_ledger h ?_
      -- the verifier has seen a collection pending, so no pots are frozen
      cases hp : m.st.pots_ with
      | none => rfl
      | some ps => simp [State.verifyBetCollection, hb (by rw [hp]; rfl)] at hv

theorem addShares_spec (f : Nat → Int) (ws : List Nat) (b : List Int) (hnd : ws.Nodup)
    (hlt : ∀ i ∈ ws, i < b.length) :
    (ws.foldl (fun b i => b.set i (getI b i + f i)) b).length = b.length ∧
    sumI (ws.foldl (fun b i => b.set i (getI b i + f i)) b) = sumI b + sumI (ws.map f) ∧
    ∀ j, getI (ws.foldl (fun b i => b.set i (getI b i + f i)) b) j
        = getI b j + (if j ∈ ws then f j else 0) := by
  induction ws generalizing b with
  | nil => simp
  | cons w ws ih =>
    simp only [List.foldl_cons]
    have hw : w < b.length := hlt w (List.mem_cons_self ..)
    have hnd' : ws.Nodup := (List.nodup_cons.1 hnd).2
    have hwn : w ∉ ws := (List.nodup_cons.1 hnd).1
    obtain ⟨g1, g2, g3⟩ := ih (b.set w (getI b w + f w)) hnd'
      (by intro i hi; rw [List.length_set]; exact hlt i (List.mem_cons_of_mem _ hi))
    refine ⟨by rw [g1, List.length_set], ?_, ?_⟩
    · rw [g2, sumI_set _ _ _ hw]; simp; omega
    · intro j
      rw [g3 j, getI_set _ _ _ _ hw]
      by_cases hjw : w = j
      · subst hjw; simp [hwn]
      · have : j ≠ w := fun e => hjw e.symm
        simp [hjw, this]

/-- `amount` chips leave frozen pot `idx` and land in front of the players `ws`, `f i` in front of player `i` -/
theorem Ledger.push {s s' : State} (h : Ledger cfg s) {ps : List Pot} (hps : s.pots_ = some ps)
    {idx : Nat} {pot : Pot} (hpot : ps[idx]? = some pot) {amount : Int} (hun : 0 ≤ pot.unraked - amount)
    {ws : List Nat} (hws : ws.Sublist pot.players) (f : Nat → Int) (hf : ∀ i ∈ ws, 0 ≤ f i)
    (hsum : sumI (ws.map f) = amount) {sps : List SubPot} (hsub : ∀ sp ∈ sps, sp ∈ s.subPots)
    (hv : chipView s' = chipView { s with
      subPots := sps, pots_ := some (ps.set idx { pot with unraked := pot.unraked - amount })
      bets := ws.foldl (fun b i => b.set i (getI b i + f i)) s.bets }) : Ledger cfg s' := by
  obtain ⟨hok, htot⟩ := h.frozen ps hps
  obtain ⟨a1, a2, a3, a4⟩ := hok pot (List.mem_of_getElem? hpot)
  obtain ⟨g1, g2, g3⟩ := addShares_spec f ws s.bets (a3.sublist hws)
    (fun i hi => by rw [h.lenBets]; exact a4 i (hws.subset hi))
  refine (?_ : Ledger cfg _).of_view hv
  refine { h with
    lenBets := g1.trans h.lenBets, nonnegBets := fun j hj => ?_, frozen := fun ps' hps' => ?_
    subNonneg := fun sp hsp => h.subNonneg sp (hsub sp hsp) }
  · have := h.nonnegBets j hj
    rw [g3 j]
    split
    · have := hf j ‹_›; omega
    · omega
  · cases hps'
    refine ⟨fun p hp => ?_, ?_⟩
    · rcases List.mem_or_eq_of_mem_set hp with hp' | rfl
      · exact hok p hp'
      · exact ⟨a1, hun, a3, a4⟩
    · unfold potsTotal
      rw [sumI_map_set ps _ _ _ hpot, g2, hsum]
      simp only [Pot.amount]
      unfold potsTotal at htot
      omega

theorem pushChips_ledger {s s' : State} {ps : List Pot} {sp : SubPot} {sps : List SubPot}
    {op : Operation} (h : Ledger cfg s) (hps : s.pots_ = some ps) (hsub : s.subPots = sp :: sps)
    (hpush : pushChips cfg env s ps sp sps = .ok (s', op)) : Ledger cfg s' := by
  have hamt : 0 ≤ sp.amount := h.subNonneg sp (by rw [hsub]; exact List.mem_cons_self ..)
  have hsps : ∀ x ∈ sps, x ∈ s.subPots := fun x hx => by rw [hsub]; exact List.mem_cons_of_mem _ hx
  obtain ⟨pot, bets, hpot, hun, rfl, -, hb⟩ := pushChips_ok hpush
  rcases hb with ⟨-, -, -, w, hw, rfl⟩ | ⟨-, b, k, hands, q, r, -, -, -, -, -, hdm, -, rfl⟩
  · -- everybody else has folded: the whole amount goes to the one player left
    exact h.push (ws := [w]) hps hpot hun (hw ▸ List.Sublist.refl [w]) (fun _ => sp.amount)
      (fun _ _ => hamt) (by simp) hsps rfl
  · -- showdown: equal shares for the best hands, the first of them taking the remainder
    have hnd := ((h.frozen ps hps).1 pot (List.mem_of_getElem? hpot)).2.2.1.sublist
      (List.filter_sublist (p := fun i => hands.getD i none == maxOrNone (pot.players.map fun i => hands.getD i none)))
    obtain ⟨hqr, hpos⟩ := divmod_spec hdm
    have hlen : (0 : Int) < (pot.players.filter fun i =>
        hands.getD i none == maxOrNone (pot.players.map fun i => hands.getD i none)).length := by
      have := divmod_ne_zero hdm; omega
    obtain ⟨hq, hr⟩ := hpos hamt hlen
    refine h.push hps hpot hun List.filter_sublist (fun i => if some i == List.head? _ then q + r else q)
      (fun _ _ => by split <;> omega) ?_ hsps rfl
    rw [shares_sum _ q r hnd (by intro e; rw [e] at hlen; cases hlen), hqr]

theorem step_opPush_ok {m : M} {rest : List Ctl} (hctl : m.ctl = .opPush :: rest)
    (herr : (step cfg env m).err = none) :
    ∃ ps sp sps op, m.st.pots_ = some ps ∧ m.st.subPots = sp :: sps ∧
      pushChips cfg env m.st ps sp sps = .ok ((step cfg env m).st, op) := by
  revert herr
  step_at hctl
  split
  · exact nofun
  · rename_i ps sp sps _ hps hsub
    split
    · exact nofun
    · rename_i s' op hpush
      exact fun _ => ⟨ps, sp, sps, op, hps, hsub, hpush⟩
  · exact nofun

theorem boardCount_pos (hc : CfgOk cfg) {s : State} (h : Ledger cfg s) : 0 < s.boardCount cfg := by
  have hb := (Config.valid_of_validate hc.valid).boards
  unfold State.boardCount
  split
  · cases hr : s.runoutCount with
    | none => simpa using hb
    | some c =>
      have := h.runoutOk c hr
      simp only [Option.getD_some]
      exact Int.mul_pos hb (by omega)
  · exact hb

theorem sum_payoffDef {s : State} (h : Ledger cfg s) :
    sumI s.payoffs = sumI s.stacks - sumI ((List.range cfg.n).map (getI cfg.startingStacks)) := by
  rw [← sumI_range_getI s.payoffs cfg.n h.lenPayoffs, ← sumI_range_getI s.stacks cfg.n h.lenStacks,
    ← sumI_map_sub]
  apply sumI_map_congr
  intro i hi
  exact h.payoffDef i (List.mem_range.1 hi)

theorem freezePots_ledger (hc : CfgOk cfg) {s s' : State} (h : Ledger cfg s) (hn : s.pots_ = none)
    (hf : freezePots cfg env s = .ok s') : Ledger cfg s' := by
  obtain ⟨ps, hpots, hps, -, hnn⟩ := freezePots_spec (boardCount_pos hc h) hf
  obtain ⟨htot, hok⟩ := pots_sum cfg { s with streetIndex := none } ps h.lenPayoffs h.lenBets hn hpots
  rw [freezePots_ok_eq hf]
  refine { h with frozen := fun ps' hps' => ?_, subNonneg := hnn (fun p hp => (hok p hp).2.1) h.subNonneg }
  cases hps.symm.trans hps'
  refine ⟨hok, ?_⟩
  rw [htot]
  have := sum_payoffDef h
  simp only [inPots]
  omega

theorem step_beginPush_ok {m : M} {rest : List Ctl} (hctl : m.ctl = .beginPush :: rest)
    (herr : (step cfg env m).err = none) :
    m.st.pots_ = none ∧ freezePots cfg env m.st = .ok (step cfg env m).st := by
  revert herr
  step_at hctl
  split
  · exact nofun
  · rename_i hcond
    split
    · exact nofun
    · rename_i s' hfp
      refine fun _ => ⟨?_, hfp⟩
      cases hp : m.st.pots_ with
      | none => rfl
      | some ps => simp [hp] at hcond

end PK
