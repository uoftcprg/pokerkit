/-
  PK.Proofs.ListLemmas — sums over integer lists, `List.set`, `getI`, `getB`/`anyB`, a sum or concatenation with one
  non-trivial term, folds with a fixed point or an invariant, folds that stop at the first exception, `dedup`,
  counts.  `sumI` is the library's `List.sum` (`sumI_eq_sum`): cons, append and `replicate` come from the library
  through that; the lemmas on the sum of a `map` or a `set` are inductions over `sumI_cons`.
-/
import PK.Model.State
namespace PK

theorem sumI_eq_sum (l : List Int) : sumI l = l.sum := List.sum_eq_foldl.symm

@[simp] theorem sumI_nil : sumI [] = 0 := rfl

@[simp] theorem sumI_cons (x : Int) (xs : List Int) : sumI (x :: xs) = x + sumI xs := by
  simp only [sumI_eq_sum, List.sum_cons]

theorem sumI_append (a b : List Int) : sumI (a ++ b) = sumI a + sumI b := by
  simp only [sumI_eq_sum, List.sum_append_int]

theorem sumI_perm {a b : List Int} (h : a.Perm b) : sumI a = sumI b :=
  h.foldl_eq' (fun _ _ _ _ _ => by omega) 0

theorem sumI_replicate (n : Nat) (x : Int) : sumI (List.replicate n x) = n * x := by
  rw [sumI_eq_sum, List.sum_replicate_int]

theorem sumI_replicate_zero (n : Nat) : sumI (List.replicate n 0) = 0 := by
  rw [sumI_replicate, Int.mul_zero]

theorem sumI_map_add (l : List α) (f g : α → Int) :
    sumI (l.map fun x => f x + g x) = sumI (l.map f) + sumI (l.map g) := by
  induction l with
  | nil => simp
  | cons x xs ih => simp [ih]; omega

theorem sumI_map_sub (l : List α) (f g : α → Int) :
    sumI (l.map fun x => f x - g x) = sumI (l.map f) - sumI (l.map g) := by
  induction l with
  | nil => simp
  | cons x xs ih => simp [ih]; omega

theorem sumI_map_neg (l : List α) (f : α → Int) :
    sumI (l.map fun x => - f x) = - sumI (l.map f) := by
  induction l with
  | nil => simp
  | cons x xs ih => simp [ih]; omega

theorem sumI_map_le (l : List α) (f g : α → Int) (h : ∀ x ∈ l, f x ≤ g x) :
    sumI (l.map f) ≤ sumI (l.map g) := by
  induction l with
  | nil => simp
  | cons x xs ih =>
    have := h x List.mem_cons_self
    have := ih fun y hy => h y (List.mem_cons_of_mem _ hy)
    simp only [List.map_cons, sumI_cons]
    omega

theorem sumI_map_congr (l : List α) (f g : α → Int) (h : ∀ x ∈ l, f x = g x) :
    sumI (l.map f) = sumI (l.map g) := by
  rw [List.map_congr_left h]

theorem sumI_map_const (l : List α) (q : Int) : sumI (l.map fun _ => q) = q * l.length := by
  rw [List.map_const', sumI_replicate, Int.mul_comm]

theorem sumI_map_zero (l : List α) : sumI (l.map fun _ => (0 : Int)) = 0 := by
  rw [sumI_map_const, Int.zero_mul]

theorem sumI_map_nonneg (l : List α) (f : α → Int) (h : ∀ x ∈ l, 0 ≤ f x) : 0 ≤ sumI (l.map f) := by
  have := sumI_map_le l (fun _ => 0) f h
  rwa [sumI_map_zero] at this

@[simp] theorem getI_nil (i : Nat) : getI [] i = 0 := by simp [getI]
@[simp] theorem getI_cons_zero (x : Int) (xs : List Int) : getI (x :: xs) 0 = x := by simp [getI]
@[simp] theorem getI_cons_succ (x : Int) (xs : List Int) (i : Nat) :
    getI (x :: xs) (i + 1) = getI xs i := by simp [getI]

theorem getI_mem (l : List Int) (i : Nat) (h : i < l.length) : getI l i ∈ l := by
  simp [getI, h]

theorem mem_getI {l : List Int} {y : Int} (h : y ∈ l) : ∃ i, i < l.length ∧ getI l i = y := by
  obtain ⟨i, hi, he⟩ := List.getElem_of_mem h
  exact ⟨i, hi, by simp [getI, hi, he]⟩

theorem getI_replicate (n i : Nat) (v : Int) (h : i < n) : getI (List.replicate n v) i = v := by
  simp [getI, h]

theorem getI_map_range (n i : Nat) (f : Nat → Int) (h : i < n) :
    getI ((List.range n).map f) i = f i := by
  simp [getI, h]

theorem map_getD_range {α β} (l : List α) (d : α) (g : α → β) :
    (List.range l.length).map (fun i => g (l.getD i d)) = l.map g :=
  List.ext_getElem (by simp) fun i h1 h2 => by simp [(by simpa using h1 : i < l.length)]

theorem map_range_getI (l : List Int) : (List.range l.length).map (getI l) = l :=
  (map_getD_range l 0 id).trans (List.map_id l)

theorem sumI_range_getI (l : List Int) (n : Nat) (h : l.length = n) :
    sumI ((List.range n).map (getI l)) = sumI l := by
  subst h; rw [map_range_getI]

theorem getI_idxOf {l : List Int} {v : Int} (h : v ∈ l) : getI l (l.idxOf v) = v := by
  simp [getI, List.idxOf_lt_length_of_mem h]

theorem sum_single (f : Nat → Int) (i n : Nat) :
    sumI ((List.range n).map fun j => if j = i then f j else 0) = if i < n then f i else 0 := by
  induction n with
  | zero => rfl
  | succ n ih =>
    rw [List.range_succ, List.map_append, sumI_append, ih]
    by_cases h1 : i < n
    · simp [h1, show ¬ n = i by omega, show i < n + 1 by omega]
    · by_cases h2 : n = i
      · simp [h2]
      · simp [h1, h2, show ¬ i < n + 1 by omega]

theorem flatMap_single {α : Type} (B p : Nat) (X : List α) :
    ((List.range B).flatMap fun q => if q = p then X else []) = if p < B then X else [] := by
  induction B with
  | zero => rfl
  | succ B ih =>
    rw [List.range_succ, List.flatMap_append, ih]
    by_cases h1 : p < B
    · simp [h1, show ¬ B = p by omega, show p < B + 1 by omega]
    · by_cases h2 : B = p
      · simp [h2]
      · simp [h1, h2, show ¬ p < B + 1 by omega]

theorem getD_set {α} (l : List α) (i j : Nat) (v d : α) :
    (l.set i v).getD j d = if i = j ∧ i < l.length then v else l.getD j d := by
  rw [List.getD_eq_getElem?_getD, List.getElem?_set, List.getD_eq_getElem?_getD]
  by_cases hij : i = j
  · subst hij
    by_cases h : i < l.length <;> simp [h]
  · simp [hij]

theorem getD_set_self {α} {l : List α} {p : Nat} (v d : α) (hp : p < l.length) : (l.set p v).getD p d = v := by
  rw [getD_set, if_pos ⟨rfl, hp⟩]

theorem getD_set_ne {α} (l : List α) {p i : Nat} (v d : α) (h : p ≠ i) : (l.set p v).getD i d = l.getD i d := by
  rw [getD_set, if_neg fun e => h e.1]

theorem set_getD_self {α} (l : List α) (p : Nat) (d : α) : l.set p (l.getD p d) = l := by
  by_cases hp : p < l.length
  · rw [List.getD_eq_getElem?_getD, List.getElem?_eq_getElem hp]
    exact List.set_getElem_self hp
  · exact List.set_eq_of_length_le (Nat.le_of_not_lt hp)

theorem getI_set_eq (l : List Int) (i : Nat) (v : Int) (h : i < l.length) :
    getI (l.set i v) i = v := getD_set_self v 0 h

theorem getI_set_ne (l : List Int) (i j : Nat) (v : Int) (h : i ≠ j) :
    getI (l.set i v) j = getI l j := getD_set_ne l v 0 h

theorem getI_set' (l : List Int) (i j : Nat) (v : Int) :
    getI (l.set i v) j = if i = j ∧ i < l.length then v else getI l j := getD_set l i j v 0

theorem getI_set (l : List Int) (i j : Nat) (v : Int) (h : i < l.length) :
    getI (l.set i v) j = if i = j then v else getI l j := by
  simp only [getI_set', h, and_true]

theorem getI_foldl_set_of_not_mem (g : List Int → Nat → Int) (ws : List Nat) (b : List Int) (j : Nat)
    (hj : j ∉ ws) : getI (ws.foldl (fun b i => b.set i (g b i)) b) j = getI b j := by
  induction ws generalizing b with
  | nil => rfl
  | cons w ws ih =>
    have hw : w ≠ j := fun e => hj (e ▸ List.mem_cons_self)
    rw [List.foldl_cons, ih _ fun h => hj (List.mem_cons_of_mem _ h), getI_set_ne _ _ _ _ hw]

theorem sumI_set (l : List Int) (i : Nat) (v : Int) (h : i < l.length) :
    sumI (l.set i v) = sumI l - getI l i + v := by
  induction l generalizing i with
  | nil => simp at h
  | cons x xs ih =>
    cases i with
    | zero => simp; omega
    | succ j =>
      simp only [List.set_cons_succ, sumI_cons, getI_cons_succ]
      rw [ih j (by simpa using h)]
      omega

theorem sumI_map_set {α : Type} (l : List α) (g : α → Int) (i : Nat) {a : α} (x : α) (h : l[i]? = some a) :
    sumI ((l.set i x).map g) = sumI (l.map g) - g a + g x := by
  obtain ⟨hlt, rfl⟩ := List.getElem?_eq_some_iff.1 h
  rw [List.map_set, sumI_set _ _ _ (by simpa using hlt)]
  simp [getI, hlt]

theorem getB_set (l : List Bool) (i j : Nat) (v : Bool) (h : i < l.length) :
    getB (l.set i v) j = if i = j then v else getB l j := by
  simp only [getB, getD_set, h, and_true]

theorem getB_set_false (l : List Bool) (p i : Nat) : getB (l.set p false) i = (getB l i && i != p) := by
  rw [getB, getD_set]
  by_cases h : p = i
  · subst h
    by_cases hl : p < l.length <;> simp [hl, getB]
  · simp [h, Ne.symm h, getB]

theorem getB_set_false_self (l : List Bool) (p : Nat) : getB (l.set p false) p = false := by
  rw [getB_set_false, bne_self_eq_false, Bool.and_false]

theorem getB_true_anyB {l : List Bool} {p : Nat} (h : getB l p = true) : anyB l = true := by
  by_cases hp : p < l.length
  · exact List.any_eq_true.2 ⟨l[p], List.getElem_mem hp, by simpa [getB, hp] using h⟩
  · simp [getB, hp] at h

theorem anyB_set_false {l : List Bool} (p : Nat) (h : anyB l = false) : anyB (l.set p false) = false := by
  refine List.any_eq_false.2 fun x hx hxt => ?_
  rcases List.mem_or_eq_of_mem_set hx with hm | he
  · exact List.any_eq_false.1 h x hm hxt
  · cases he
    cases hxt

theorem anyB_replicate_false (n : Nat) : anyB (List.replicate n false) = false :=
  List.any_eq_false.2 fun _ hx => by rw [(List.mem_replicate.1 hx).2]; exact Bool.false_ne_true

theorem anyB_map_false (l : List Bool) : anyB (l.map fun _ => false) = false := by
  simp [anyB]

theorem foldl_fixed {α β : Type} {f : α → β → α} {a : α} (hf : ∀ b, f a b = a) : ∀ l : List β, l.foldl f a = a
  | [] => rfl
  | b :: l => by rw [List.foldl_cons, hf, foldl_fixed hf l]

theorem foldlE_cons {ε α β : Type} {f : Except ε β → α → Except ε β} (herr : ∀ e x, f (.error e) x = .error e)
    {x : α} {xs : List α} {b0 b : β} (h : (x :: xs).foldl f (.ok b0) = .ok b) :
    ∃ b', f (.ok b0) x = .ok b' ∧ xs.foldl f (.ok b') = .ok b := by
  rw [List.foldl_cons] at h
  cases hx : f (.ok b0) x with
  | error e => rw [hx, foldl_fixed (herr e)] at h; cases h
  | ok b' => exact ⟨b', rfl, hx ▸ h⟩

/-- `I rem b` relates the value the loop has reached to the items still to come. -/
theorem foldlE_inv {ε α β : Type} {f : Except ε β → α → Except ε β} (herr : ∀ e x, f (.error e) x = .error e)
    (I : List α → β → Prop) (hstep : ∀ x rem b b', I (x :: rem) b → f (.ok b) x = .ok b' → I rem b') :
    ∀ {xs : List α} {b0 b : β}, I xs b0 → xs.foldl f (.ok b0) = .ok b → I [] b
  | [], _, _, h0, h => by cases h; exact h0
  | x :: xs, b0, b, h0, h => by
    obtain ⟨b', hx, h⟩ := foldlE_cons herr h
    exact foldlE_inv herr I hstep (hstep x xs b0 b' h0 hx) h

/-- `Counter(c :: cs) <= Counter(hole)` peeled: `c` is in the hand, and `Counter(cs) <= Counter(hole - c)` -/
theorem count_le_cons {c : Card} {cs hole : List Card} (h : ∀ d, d ∈ c :: cs → (c :: cs).count d ≤ hole.count d) :
    c ∈ hole ∧ ∀ d, d ∈ cs → cs.count d ≤ (hole.erase c).count d := by
  refine ⟨List.count_pos_iff.1 (Nat.lt_of_lt_of_le (List.count_pos_iff.2 List.mem_cons_self)
    (h c List.mem_cons_self)), fun d hd => ?_⟩
  have := h d (List.mem_cons_of_mem _ hd)
  by_cases hdc : d = c
  · subst hdc
    rw [List.count_cons_self] at this
    rw [List.count_erase_self]
    omega
  · rwa [List.count_cons_of_ne (Ne.symm hdc), ← List.count_erase_of_ne (l := hole) hdc] at this

theorem dedup_foldl [BEq α] [LawfulBEq α] : ∀ (l acc : List α), acc.Nodup →
    (l.foldl (fun acc y => if acc.contains y then acc else acc ++ [y]) acc).Nodup ∧
    ∀ x, x ∈ l.foldl (fun acc y => if acc.contains y then acc else acc ++ [y]) acc ↔ x ∈ acc ∨ x ∈ l
  | [], acc, h => by simp [h]
  | y :: ys, acc, h => by
    rw [List.foldl_cons]
    split
    · have hy : y ∈ acc := by simpa using ‹acc.contains y = true›
      refine (dedup_foldl ys acc h).imp_right fun ih x => ?_
      rw [ih, List.mem_cons]
      exact ⟨fun h => h.imp_right .inr, fun h => h.elim .inl (·.elim (· ▸ .inl hy) .inr)⟩
    · have hy : y ∉ acc := by simpa using ‹¬ acc.contains y = true›
      refine (dedup_foldl ys (acc ++ [y]) ?_).imp_right fun ih x => ?_
      · exact List.nodup_append.2 ⟨h, by simp, fun a ha b hb e => hy (List.mem_singleton.1 hb ▸ e ▸ ha)⟩
      · rw [ih, List.mem_append, List.mem_singleton, List.mem_cons, or_assoc]

theorem mem_dedup [BEq α] [LawfulBEq α] (l : List α) (x : α) : x ∈ dedup l ↔ x ∈ l :=
  ((dedup_foldl l [] .nil).2 x).trans (by simp)

theorem dedup_nodup [BEq α] [LawfulBEq α] (l : List α) : (dedup l).Nodup :=
  (dedup_foldl l [] .nil).1

theorem dedup_foldl_sublist [BEq α] : ∀ (l acc : List α),
    ∃ r, l.foldl (fun acc y => if acc.contains y then acc else acc ++ [y]) acc = acc ++ r ∧ r.Sublist l
  | [], acc => ⟨[], (List.append_nil acc).symm, .slnil⟩
  | y :: ys, acc => by
    rw [List.foldl_cons]
    split
    · obtain ⟨r, h, hs⟩ := dedup_foldl_sublist ys acc
      exact ⟨r, h, hs.cons y⟩
    · obtain ⟨r, h, hs⟩ := dedup_foldl_sublist ys (acc ++ [y])
      exact ⟨y :: r, h.trans (List.append_assoc ..), hs.cons_cons y⟩

theorem dedup_sublist [BEq α] (l : List α) : (dedup l).Sublist l := by
  obtain ⟨r, h, hs⟩ := dedup_foldl_sublist l []
  rwa [dedup, h]

theorem dedup_length_perm [BEq α] [LawfulBEq α] {a b : List α} (h : a.Perm b) :
    (dedup a).length = (dedup b).length :=
  ((List.perm_ext_iff_of_nodup (dedup_nodup a) (dedup_nodup b)).2 fun x => by
    rw [mem_dedup, mem_dedup]
    exact h.mem_iff).length_eq

theorem foldl_inv {α β γ : Type} (F : β → γ) (g : β → α → β) (hg : ∀ b a, F (g b a) = F b) :
    ∀ (l : List α) (b : β), F (l.foldl g b) = F b
  | [], _ => rfl
  | a :: l, b => (foldl_inv F g hg l (g b a)).trans (hg b a)

end PK
