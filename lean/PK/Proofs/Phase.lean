/-
  PK.Proofs.Phase — the phase invariant is preserved by every micro-step.

  Control flow, read off `Pushes` (PK/Proofs/Control.lean): below the running frame wait continuations only
  (`step_head`), and a frame hands over to a continuation, an operation, a method of its own phase or — from an
  `_end_*` — the `_begin_*` of another phase (`Pushes.pre`).  Flags: a frame writes flags of its own phase only
  (`step_flag`, read off `Ctl.restore`); a method runs with no other phase active (`framePre`), an operation whose
  verifier accepts finds its phase active (`verifyOp_flag`), an `_end_*` hands over with its flag down (`end_down`).
  The one irregularity is a voluntary show outside a street, which touches no flag (`opShow_spec`).
-/
import PK.Proofs.Control
import PK.Proofs.VerifyShow
import PK.Proofs.VerifyFlagged
namespace PK
open State M

variable {cfg : Config} {env : Env}

def SameExcept (X : Phase) (s s' : State) : Prop := ∀ Y : Phase, Y ≠ X → Y.flag s' = Y.flag s

theorem SameExcept.trans {X : Phase} {s s' s'' : State} (h1 : SameExcept X s s') (h2 : SameExcept X s' s'') :
    SameExcept X s s'' := fun Y hne => (h2 Y hne).trans (h1 Y hne)

theorem OnlyMaybe.same {X : Phase} {s s' : State} (h : OnlyMaybe X s) (hs : SameExcept X s s') :
    OnlyMaybe X s' := by
  intro Y hY
  by_cases hne : Y = X
  · exact hne
  · rw [hs Y hne] at hY; exact h Y hY

theorem OnlyMaybe.clear {X : Phase} {s : State} (h : OnlyMaybe X s) (hx : X.flag s = false) : AllClear s := by
  intro Y
  cases hY : Y.flag s with
  | false => rfl
  | true => cases h Y hY; rw [hx] at hY; cases hY

theorem OnlyMaybe.flag_false {X Y : Phase} {s : State} (h : OnlyMaybe X s) (hne : X ≠ Y) : Y.flag s = false :=
  Bool.eq_false_iff.2 fun hf => hne (h Y hf).symm

theorem OnlyMaybe.excl {X : Phase} {s : State} (h : OnlyMaybe X s) : Exclusive s := ⟨X, h⟩

theorem AllClear.excl {s : State} (h : AllClear s) : Exclusive s := ⟨.ante, h.only _⟩

theorem Exclusive.of_flag {X : Phase} {s : State} (h : Exclusive s) (hx : X.flag s = true) :
    OnlyMaybe X s := by
  obtain ⟨Z, hz⟩ := h
  cases hz X hx
  exact hz

theorem Exclusive.congr {s s' : State} (h : Exclusive s) (hf : ∀ Y : Phase, Y.flag s' = Y.flag s) : Exclusive s' :=
  let ⟨X, hx⟩ := h
  ⟨X, hx.same fun Y _ => hf Y⟩

theorem framePre_of_isK {f : Ctl} (h : f.isK = true) (s : State) : framePre cfg f s := by
  cases f <;> first | trivial | cases h

/-- the phase a frame belongs to: `phase?` extended to the operations -/
def Ctl.phaseOf : Ctl → Option Phase
  | .opPostAnte _ => some .ante
  | .opCollect => some .collect
  | .opPostBlind _ => some .blind
  | .opBurn _ | .opDealHole _ _ | .opDealBoard _ | .opDraw _ => some .deal
  | .opFold | .opCall | .opBringIn | .opCbr _ => some .bet
  | .opRunout _ _ | .opShow _ _ => some .show
  | .opKill _ => some .kill
  | .opPush => some .push
  | .opPull _ => some .pull
  | f => f.phase?

def Ctl.isEnd : Ctl → Bool
  | .endAnte | .endCollect | .endBlind | .endDeal | .endBet | .endShow | .endKill | .endPush | .endPull => true
  | _ => false

/-- the fields a frame may write (`Ctl.restore`) are not among those another phase's flag looks at -/
theorem step_flag {m : M} {f : Ctl} {rest : List Ctl} (hctl : m.ctl = f :: rest) {Y : Phase}
    (hY : f.phaseOf ≠ some Y) : Y.flag (step cfg env m).st = Y.flag m.st := by
  refine step_view Y.flag hctl fun s s' => ?_
  cases f <;> dsimp only [Ctl.restore] <;> cases Y <;> first | rfl | exact absurd rfl hY

theorem step_sameExcept {m : M} {f : Ctl} {rest : List Ctl} (hctl : m.ctl = f :: rest) {X : Phase}
    (hX : f.phaseOf = some X) : SameExcept X m.st (step cfg env m).st :=
  fun _ hne => step_flag hctl (by rw [hX]; exact fun e => hne (Option.some.inj e).symm)

theorem Pushes.pre {f g : Ctl} {gs : List Ctl} {s : State} (hp : Pushes cfg f (g :: gs))
    (hin : ∀ X, f.phaseOf = some X → OnlyMaybe X s ∧ (f.isEnd = true → X.flag s = false)) : framePre cfg g s := by
  cases hp <;> first
    | trivial
    | exact (hin _ rfl).1
    | exact .inr (hin _ rfl).1
    | exact (hin _ rfl).1.clear ((hin _ rfl).2 rfl)

theorem verifyAnte_flag {s : State} {i : Option Nat} {p : Nat}
    (h : s.verifyAntePosting cfg i = .ok p) : Phase.ante.flag s = true := verifyFlagged_any h

theorem verifyCollect_flag {s : State} (h : s.verifyBetCollection = .ok ()) : Phase.collect.flag s = true := by
  simpa [Phase.flag] using not_of_guard h

theorem verifyBlind_flag {s : State} {i : Option Nat} {p : Nat}
    (h : s.verifyBlindPosting cfg i = .ok p) : Phase.blind.flag s = true := verifyFlagged_any h

theorem verifyBurn_flag {s : State} {a : CardsArg} {v : Verdict Card}
    (h : s.verifyCardBurning cfg env a = .ok v) : Phase.deal.flag s = true := by
  obtain ⟨_, hb, _⟩ := verifyCardBurning_spec h
  simp [Phase.flag, hb]

theorem verifyDealHole_flag {s : State} {a : CardsArg} {i : Option Nat} {v : Verdict (List Card × Nat)}
    (h : s.verifyHoleDealing cfg env a i = .ok v) : Phase.deal.flag s = true := by
  simp [Phase.flag, (verifyHoleDealing0_ok (verifyHoleDealing_spec h).1).2.1]

theorem verifyDealBoard_flag {s : State} {a : CardsArg} {v : Verdict (List Card)}
    (h : s.verifyBoardDealing cfg env a = .ok v) : Phase.deal.flag s = true := by
  simp [Phase.flag, (verifyBoardDealing0_ok (verifyBoardDealing_spec h).1).2.1]

theorem verifyDraw_flag {s : State} {cs cs' : List Card} (h : s.verifyStandingPat cs = .ok cs') :
    Phase.deal.flag s = true := by
  obtain ⟨_, p, hp, _⟩ := verifyStandingPat_spec h
  simp [Phase.flag, firstTrue_some hp]

theorem verifyFold_flag {s : State} {v : Verdict Unit} (h : s.verifyFolding cfg = .ok v) :
    Phase.bet.flag s = true := by
  simpa [Phase.flag] using not_of_guard h

theorem verifyCall_flag {s : State} (h : s.verifyCheckingOrCalling = .ok ()) : Phase.bet.flag s = true := by
  simpa [Phase.flag] using not_of_guard h

theorem verifyBringIn_flag {s : State} (h : s.verifyBringInPosting = .ok ()) : Phase.bet.flag s = true := by
  simpa [Phase.flag] using not_of_guard h

theorem verifyCbr_flag {s : State} {a : Option Int} {x : Int} (h : s.verifyCbr cfg a = .ok x) :
    Phase.bet.flag s = true := by
  unfold State.verifyCbr at h
  split at h
  · cases h
  · rename_i h0
    simpa [Phase.flag] using not_of_guard h0

theorem verifyRunout_flag {s : State} {c : Option Int} {i : Option Nat} {p : Nat}
    (h : s.verifyRunoutCountSelection cfg c i = .ok p) : Phase.show.flag s = true := by
  simp [Phase.flag, verifyFlagged_any (verifyRunout_eq cfg s c i ▸ h)]

/-- inside a street `show_or_muck_hole_cards` needs a player waiting in the showdown queue -/
theorem verifyShow_flag {s : State} {a : ShowArg} {i : Option Nat} {v : Verdict ShowPlan}
    (h : s.verifyShow cfg env a i = .ok v) (hst : (s.street cfg).isSome = true) : Phase.show.flag s = true := by
  unfold State.verifyShow at h
  split at h
  · cases h
  · rename_i h0
    have : s.showdown.isEmpty = false := by simpa [hst] using not_of_guard h0
    simp [Phase.flag, this]

theorem verifyKill_flag {s : State} {i : Option Nat} {p : Nat}
    (h : s.verifyHandKilling cfg i = .ok p) : Phase.kill.flag s = true := verifyFlagged_any h

theorem verifyPush_flag {s : State} (h : s.verifyChipsPushing = .ok ()) : Phase.push.flag s = true := by
  simpa [Phase.flag] using not_of_guard h

theorem verifyPull_flag {s : State} {i : Option Nat} {p : Nat}
    (h : s.verifyChipsPulling cfg i = .ok p) : Phase.pull.flag s = true := verifyFlagged_any h

theorem verifyOp_flag {s : State} {f : Ctl} {X : Phase} (hv : verifyOp cfg env s f = .ok ()) (hX : f.phaseOf = some X)
    (hst : (s.street cfg).isSome = true ∨ ∀ a i, f ≠ .opShow a i) : X.flag s = true := by
  cases f <;> cases hX <;> simp only [verifyOp, runoutPlumb] at hv
  case opPostAnte => exact of_map_ok hv fun _ => verifyAnte_flag
  case opCollect => exact verifyCollect_flag hv
  case opPostBlind => exact of_map_ok hv fun _ => verifyBlind_flag
  case opBurn => exact of_map_ok hv fun _ => verifyBurn_flag
  case opDealHole => exact of_map_ok hv fun _ => verifyDealHole_flag
  case opDealBoard => exact of_map_ok hv fun _ => verifyDealBoard_flag
  case opDraw => exact of_map_ok hv fun _ => verifyDraw_flag
  case opFold => exact of_map_ok hv fun _ => verifyFold_flag
  case opCall => exact verifyCall_flag hv
  case opBringIn => exact verifyBringIn_flag hv
  case opCbr => exact of_map_ok hv fun _ => verifyCbr_flag
  case opRunout => exact of_map_ok hv fun _ => verifyRunout_flag
  case opShow a i =>
    exact of_map_ok hv fun _ h => verifyShow_flag h (hst.resolve_right fun hne => hne a i rfl)
  case opKill => exact of_map_ok hv fun _ => verifyKill_flag
  case opPush => exact verifyPush_flag hv
  case opPull => exact of_map_ok hv fun _ => verifyPull_flag
  all_goals cases hv

theorem end_down {m : M} {f : Ctl} {rest : List Ctl} {X : Phase} (hctl : m.ctl = f :: rest) (hX : f.phaseOf = some X)
    (he : f.isEnd = true) (hc : (step cfg env m).ctl ≠ []) : X.flag (step cfg env m).st = false := by
  cases f <;> cases he <;> cases hX
  case endKill | endPull =>
    step_at hctl
    exact anyB_map_false _
  case endBet =>
    revert hc
    rw [step_endBet_eq hctl]
    split
    · exact absurd rfl
    · exact fun _ => by rw [afterRound_eq]; rfl
  -- the others assert that the flag is down (`_end_chips_pushing` also that the pots are frozen) and leave it alone
  all_goals
    refine (step_view (Phase.flag _) hctl fun _ _ => rfl).trans ?_
    revert hc
  case' endCollect => rw [step_endCollect_eq hctl]
  case' endShow => rw [step_endShow_eq hctl]
  all_goals
    try step_at hctl
    split
    · exact absurd rfl
    · rename_i hf
      refine fun _ => Bool.of_not_eq_true fun hfl => hf ?_
      first | exact hfl | exact Bool.or_eq_true_iff.2 (.inr hfl)

theorem street_log (s : State) (op) : (M.log s op).street cfg = s.street cfg := by
  cases op <;> rfl

/-- outside a street there is no queue to leave and nothing is mucked -/
theorem opShow_spec (m : M) (arg : ShowArg) (i : Option Nat) (rest : List Ctl)
    (hctl : m.ctl = .opShow arg i :: rest) :
    (step cfg env m).st.street cfg = m.st.street cfg ∧
    ((m.st.street cfg).isNone = true →
      (∀ Y : Phase, Y.flag (step cfg env m).st = Y.flag m.st) ∧ (step cfg env m).st.status = m.st.status) := by
  refine ⟨step_view (·.street cfg) hctl fun _ _ => rfl, fun hn => ?_⟩
  refine step_show (P := fun s' => (∀ Y : Phase, Y.flag s' = Y.flag m.st) ∧ s'.status = m.st.status) hctl
    ⟨fun _ => rfl, rfl⟩ (fun _ => by rw [offQueue_of_none hn]; exact ⟨fun _ => rfl, rfl⟩) fun hv _ hs => ?_
  rw [offQueue_of_none hn] at hs
  rcases showOrMuck_ok hs with ⟨_, e⟩ | ⟨hm, _⟩
  · rw [e]; exact ⟨fun Y => by cases Y <;> rfl, rfl⟩
  · rw [verifyShow_none_status hv hn] at hm; cases hm

theorem PhaseInv.raise {m : M} (h : PhaseInv cfg m) (e : Err) : PhaseInv cfg (m.raise e) :=
  ⟨h.excl, (fun _ _ hc => nomatch hc), (fun _ _ hc => nomatch hc)⟩

theorem PhaseInv.step_of {m : M} {f : Ctl} {rest : List Ctl} (h : PhaseInv cfg m) (hctl : m.ctl = f :: rest)
    (hex : Exclusive (step cfg env m).st)
    (hnext : ∀ g gs, Pushes cfg f (g :: gs) → (step cfg env m).ctl = g :: (gs ++ rest) →
      framePre cfg g (step cfg env m).st) : PhaseInv cfg (step cfg env m) := by
  have hk := h.tail f rest hctl
  refine ⟨hex, fun g r hc => ?_, fun g r hc => (step_head hk hctl hc).1⟩
  rcases (step_head hk hctl hc).2 with hg | ⟨gs, hp, rfl⟩
  · exact framePre_of_isK hg _
  · exact hnext g gs hp hc

/-- a frame outside the phases (continuation, `endHand`, no-op) -/
theorem PhaseInv.step_free {m : M} {f : Ctl} {rest : List Ctl} (h : PhaseInv cfg m) (hctl : m.ctl = f :: rest)
    (hX : f.phaseOf = none) : PhaseInv cfg (step cfg env m) :=
  h.step_of hctl (h.excl.congr fun _ => step_flag hctl (by rw [hX]; nofun))
    fun _ _ hp _ => hp.pre (by rw [hX]; exact fun _ e => nomatch e)

theorem PhaseInv.step_in {m : M} {f : Ctl} {rest : List Ctl} {X : Phase} (h : PhaseInv cfg m)
    (hctl : m.ctl = f :: rest) (hX : f.phaseOf = some X) (hin : OnlyMaybe X m.st) : PhaseInv cfg (step cfg env m) := by
  have h' : OnlyMaybe X (step cfg env m).st := hin.same (step_sameExcept hctl hX)
  refine h.step_of hctl h'.excl fun g gs hp hc => hp.pre fun Y hY => ?_
  cases hX.symm.trans hY
  exact ⟨h', fun he => end_down hctl hX he (by rw [hc]; nofun)⟩

theorem PhaseInv.step_op {m : M} {f : Ctl} {rest : List Ctl} {X : Phase} (h : PhaseInv cfg m)
    (hctl : m.ctl = f :: rest) (hop : f.isOp = true) (hX : f.phaseOf = some X)
    (hst : (m.st.street cfg).isSome = true ∨ ∀ a i, f ≠ .opShow a i) : PhaseInv cfg (step cfg env m) := by
  cases hv : verifyOp cfg env m.st f with
  | error e => rw [step_refused hctl hop hv]; exact h.raise e
  | ok u => exact h.step_in hctl hX (h.excl.of_flag (verifyOp_flag hv hX hst))

theorem phaseInv_step (m : M) (h : PhaseInv cfg m) : PhaseInv cfg (step cfg env m) := by
  cases hctl : m.ctl with
  | nil => rw [step_nil hctl]; exact h
  | cons f rest =>
    have hpre := h.head f rest hctl
    cases f
    case beginAnte | beginCollect | beginBlind | beginDeal | beginBet | beginShow | beginKill | beginPush
        | beginPull =>
      exact h.step_in hctl rfl (AllClear.only hpre _)
    case updAnte | updCollect | updBlind | updDeal | updBet | updKill | updPush | updPull
        | endAnte | endCollect | endBlind | endDeal | endBet | endShow | endKill | endPush | endPull =>
      exact h.step_in hctl rfl hpre
    case updShow op =>
      rcases hpre with hn | hin
      · -- no street: `_update_showdown` returns at once
        have hc : (step cfg env m).ctl = rest := by
          step_at hctl
          rw [street_log, if_pos hn]
          rfl
        refine h.step_of hctl (h.excl.congr fun Y => ?_) fun g gs _ hc' => ?_
        · cases Y <;> exact step_view _ hctl fun _ _ => rfl
        · exact nomatch List.self_eq_append_left.1 (hc.symm.trans hc' : rest = (g :: gs) ++ rest)
      · exact h.step_in hctl rfl hin
    case opShow a i =>
      cases hs : m.st.street cfg with
      | some st => exact h.step_op hctl rfl rfl (.inl (by rw [hs]; rfl))
      | none =>
        have hn : (m.st.street cfg).isNone = true := by rw [hs]; rfl
        obtain ⟨hst, hfl⟩ := opShow_spec (cfg := cfg) (env := env) m a i rest hctl
        refine h.step_of hctl (h.excl.congr (hfl hn).1) fun g gs hp _ => ?_
        cases hp
        exact .inl (by rw [hst]; exact hn)
    case opPostAnte | opCollect | opPostBlind | opBurn | opDealHole | opDealBoard | opDraw | opFold | opCall | opBringIn
        | opCbr | opRunout | opKill | opPush | opPull =>
      exact h.step_op hctl rfl rfl (.inr fun _ _ e => nomatch e)
    all_goals exact h.step_free hctl rfl

end PK
