/-
  PK.Proofs.Pots — the layer-cake identity: whatever `State.pots` returns adds up to the
  chips that are in no stack and in front of nobody (`inPots`), every pot is non-negative,
  and its eligible players are distinct valid seats.

  The loop of `pots` is followed for the pots whose eligible players satisfy a predicate `φ`
  (`potsOn φ`): `φ = fun _ => true` gives the sum of all pots (`pots_sum`, here), `φ = (·.contains i)`
  the pots player `i` can win (`C02_capped`).
-/
import PK.Spec.Ledger
import PK.Proofs.Sorted
namespace PK
open State

/-- chips added by one contribution level `v` above the previous level `prev` -/
def layer (cs : List Int) (v prev : Int) : Int :=
  sumI (cs.map fun c => if c ≥ v then v - prev else 0)

def layers (cs : List Int) : Int → List Int → Int
  | _, [] => 0
  | prev, v :: vs => layer cs v prev + layers cs v vs

/-- every contribution is counted from `prev` up to the last level.  A contribution is at most `prev`, or one of the
    levels, or above them all: the last case is for `fold_capped` (C02Capped), where `ws` are the levels up to what one
    player put in; with all the levels (`layers_total`) the first two do -/
theorem layers_prefix (cs : List Int) : ∀ (ws : List Int) (prev : Int), (∀ w ∈ ws, prev ≤ w) → StrictSorted ws →
    (∀ c ∈ cs, c ≤ prev ∨ c ∈ ws ∨ ∀ w ∈ ws, w < c) →
    layers cs prev ws = sumI (cs.map fun c => max (min c (ws.getLastD prev) - prev) 0)
  | [], prev, _, _, _ => by
    rw [layers, List.getLastD_nil, sumI_map_congr cs _ (fun _ => 0) (fun c _ => by omega), sumI_map_zero]
  | w :: ws, prev, hge, hs, hc => by
    obtain ⟨hlt, hs'⟩ := List.pairwise_cons.1 hs
    have hle : ∀ x ∈ ws, w ≤ x := fun x hx => Int.le_of_lt (hlt x hx)
    have hL : w ≤ ws.getLastD w := le_getLastD ws w (StrictSorted.sorted_cons hs' hle) w List.mem_cons_self
    have hw : prev ≤ w := hge w List.mem_cons_self
    rw [layers, List.getLastD_cons, layers_prefix cs ws w hle hs', layer, ← sumI_map_add]
    · apply sumI_map_congr
      intro c hcm
      split
      · omega
      · have : c ≤ prev := by
          rcases hc c hcm with h | h | h
          · exact h
          · rcases List.mem_cons.1 h with rfl | h
            · omega
            · have := hlt c h; omega
          · have := h w List.mem_cons_self; omega
        omega
    · intro c hcm
      rcases hc c hcm with h | h | h
      · exact .inl (by omega)
      · rcases List.mem_cons.1 h with rfl | h
        · exact .inl (by omega)
        · exact .inr (.inl h)
      · exact .inr (.inr fun x hx => h x (List.mem_cons_of_mem _ hx))

theorem layers_total (cs : List Int) (prev : Int) (vs : List Int) (hs : StrictSorted vs)
    (hc : ∀ c ∈ cs, c ∈ vs) :
    layers cs prev vs = sumI (cs.map fun c => c - prev) := by
  cases vs with
  | nil =>
    cases cs with
    | nil => rfl
    | cons c _ => cases hc c List.mem_cons_self
  | cons v ws =>
    -- the first level may lie below `prev`: it is taken off, and `layers_prefix` does the rest
    obtain ⟨hlt, hs'⟩ := List.pairwise_cons.1 hs
    have hle : ∀ x ∈ ws, v ≤ x := fun x hx => Int.le_of_lt (hlt x hx)
    have hL := le_getLastD ws v (StrictSorted.sorted_cons hs' hle)
    have hc' : ∀ c ∈ cs, c ≤ v ∨ c ∈ ws ∨ ∀ w ∈ ws, w < c := fun c hcm =>
      (List.mem_cons.1 (hc c hcm)).elim (fun e => .inl (Int.le_of_eq e)) (fun h => .inr (.inl h))
    rw [layers, layers_prefix cs ws v hle hs' hc', layer, ← sumI_map_add]
    apply sumI_map_congr
    intro c hcm
    have h1 := hL c (hc c hcm)
    have h3 : c ≥ v := (List.mem_cons.1 (hc c hcm)).elim (fun e => Int.le_of_eq e.symm) (hle c)
    rw [if_pos h3]
    omega

def potsOn (φ : List Nat → Bool) (rp : List Pot) : Int := potsTotal (rp.filter fun p => φ p.players)

theorem potsTotal_nil : potsTotal [] = 0 := rfl
theorem potsTotal_cons (p : Pot) (ps : List Pot) : potsTotal (p :: ps) = p.amount + potsTotal ps := by
  simp [potsTotal]

theorem potsTotal_reverse (ps : List Pot) : potsTotal ps.reverse = potsTotal ps :=
  sumI_perm ((List.reverse_perm ps).map _)

theorem potsOn_cons (φ : List Nat → Bool) (p : Pot) (rp : List Pot) :
    potsOn φ (p :: rp) = (if φ p.players then p.amount else 0) + potsOn φ rp := by
  unfold potsOn
  rw [List.filter_cons]
  split
  · rw [potsTotal_cons]
  · rw [Int.zero_add]

theorem potsOn_true (rp : List Pot) : potsOn (fun _ => true) rp = potsTotal rp := by
  unfold potsOn
  rw [List.filter_eq_self.2 fun _ _ => rfl]

theorem potsOn_reverse (φ : List Nat → Bool) (rp : List Pot) : potsOn φ rp.reverse = potsOn φ rp := by
  unfold potsOn
  rw [List.filter_reverse, potsTotal_reverse]

theorem pyRake_sum (r : RakeCfg) (b : Bool) (a : Int) : (pyRake r b a).1 + (pyRake r b a).2 = a := by
  unfold pyRake
  split
  · simp
  · simp; omega

theorem mkPot_ok {raked unraked : Int} {players : List Nat} {p : Pot}
    (h : mkPot raked unraked players = .ok p) :
    p = ⟨raked, unraked, players⟩ ∧ 0 ≤ raked ∧ 0 ≤ unraked := by
  unfold mkPot at h
  split at h
  · cases h
  · split at h
    · cases h
    · cases h; refine ⟨rfl, ?_, ?_⟩ <;> omega

theorem popSame_potsOn (φ : List Nat → Bool) (players : List Nat) (rp : List Pot) (amount : Int) :
    potsOn φ (popSame players rp amount).1 + (if φ players then (popSame players rp amount).2 else 0)
      = potsOn φ rp + (if φ players then amount else 0) := by
  induction rp generalizing amount with
  | nil => rfl
  | cons p rest ih =>
    simp only [popSame]
    split
    · next heq =>
      rw [ih, potsOn_cons, eq_of_beq heq]
      split <;> omega
    · rfl

theorem popSame_subset (players : List Nat) (rp : List Pot) (amount : Int) :
    ∀ p ∈ (popSame players rp amount).1, p ∈ rp := by
  induction rp generalizing amount with
  | nil => simp [popSame]
  | cons q rest ih =>
    simp only [popSame]
    split
    · intro p hp; exact List.mem_cons_of_mem _ (ih _ p hp)
    · intro p hp; exact hp

theorem foldl_layer (cs : List Int) (v prev a : Int) :
    cs.foldl (fun a c => if c ≥ v then a + (v - prev) else a) a = a + layer cs v prev := by
  induction cs generalizing a with
  | nil => simp [layer]
  | cons c cs ih =>
    simp only [List.foldl_cons, layer, List.map_cons, sumI_cons]
    rw [ih]
    simp only [layer]
    split <;> omega

variable {cfg : Config}

theorem levelAmount_eq (cs : List Int) (hcs : cs.length = cfg.n) (amount prev v : Int) :
    levelAmount cfg cs amount prev v = amount + layer cs v prev := by
  unfold levelAmount playerIndices
  rw [← foldl_layer, ← hcs, ← congrArg (List.foldl _ amount) (map_range_getI cs), List.foldl_map]

theorem levelPlayers_ok (cfg : Config) (s : State) (pending : List Int) (v : Int) :
    (levelPlayers cfg s pending v).Nodup ∧ ∀ i ∈ levelPlayers cfg s pending v, i < cfg.n := by
  unfold levelPlayers playerIndices
  exact ⟨(List.nodup_range).filter _, fun i hi => List.mem_range.1 (List.mem_filter.1 hi).1⟩

theorem potsStep_ok (φ : List Nat → Bool) {s : State} {cs pending : List Int} (hcs : cs.length = cfg.n)
    {rp : List Pot} {amount prev v : Int} {rp' : List Pot} {amount' prev' : Int}
    (h : potsStep cfg s cs pending (.ok (rp, amount, prev)) v = .ok (rp', amount', prev')) :
    amount' = 0 ∧ prev' = v ∧
    potsOn φ rp' = potsOn φ rp +
      (if φ (levelPlayers cfg s pending v) then amount + layer cs v prev else 0) ∧
    ((∀ p ∈ rp, PotOk cfg.n p) → ∀ p ∈ rp', PotOk cfg.n p) := by
  unfold potsStep at h
  simp only [levelAmount_eq cs hcs] at h
  have hpop := popSame_potsOn φ (levelPlayers cfg s pending v) rp (amount + layer cs v prev)
  have hsub := popSame_subset (levelPlayers cfg s pending v) rp (amount + layer cs v prev)
  generalize popSame (levelPlayers cfg s pending v) rp (amount + layer cs v prev) = pr at h hpop hsub
  obtain ⟨rq, am⟩ := pr
  simp only at h hpop hsub
  split at h
  · split at h
    · cases h
    · next p hp =>
      cases h
      obtain ⟨rfl, h1, h2⟩ := mkPot_ok hp
      refine ⟨rfl, rfl, ?_, fun hok q hq => ?_⟩
      · rw [potsOn_cons]
        simp only [Pot.amount]
        rw [pyRake_sum]
        omega
      · rcases List.mem_cons.1 hq with rfl | hq
        · exact ⟨h1, h2, levelPlayers_ok cfg s pending v⟩
        · exact hok q (hsub q hq)
  · next hz =>
    cases h
    have : am = 0 := by simpa using hz
    rw [this, ite_self] at hpop
    exact ⟨rfl, rfl, by omega, fun hok q hq => hok q (hsub q hq)⟩

variable (cfg) in
theorem potsStep_error (s : State) (cs pending : List Int) (e : Err) (v : Int) :
    potsStep cfg s cs pending (.error e) v = .error e := rfl

/-- `φ` holds of the players of the first levels (those with `e`) and of no later level: the pots with `φ` receive
    what is carried into the loop and the layers of those levels. -/
theorem foldl_potsStep (φ : List Nat → Bool) (e : Int → Bool) {s : State} {cs pending : List Int}
    (hcs : cs.length = cfg.n) (he : ∀ v w, v ≤ w → e w = true → e v = true) {vs : List Int} (hs : StrictSorted vs)
    (hφ : ∀ v ∈ vs, φ (levelPlayers cfg s pending v) = e v)
    {rp : List Pot} {amount prev : Int} {rp' : List Pot} {amount' prev' : Int}
    (h : vs.foldl (potsStep cfg s cs pending) (.ok (rp, amount, prev)) = .ok (rp', amount', prev')) :
    (vs.filter e = [] → potsOn φ rp' = potsOn φ rp) ∧
    (vs.filter e ≠ [] → potsOn φ rp' = potsOn φ rp + amount + layers cs prev (vs.filter e)) ∧
    ((∀ p ∈ rp, PotOk cfg.n p) → ∀ p ∈ rp', PotOk cfg.n p) := by
  induction vs generalizing rp amount prev with
  | nil =>
    cases h
    exact ⟨fun _ => rfl, fun h => absurd rfl h, id⟩
  | cons v vs ih =>
    obtain ⟨⟨rq, am, pv⟩, hstep, h⟩ := foldlE_cons (potsStep_error cfg s cs pending) h
    obtain ⟨rfl, hpv, h1, h2⟩ := potsStep_ok φ hcs hstep
    subst pv
    obtain ⟨hlt, hs'⟩ := List.pairwise_cons.1 hs
    obtain ⟨g1, g2, g3⟩ := ih hs' (fun w hw => hφ w (List.mem_cons_of_mem _ hw)) h
    rw [hφ v List.mem_cons_self] at h1
    rw [List.filter_cons]
    cases hev : e v with
    | false =>
      -- no later level has `e` either
      have hnil : vs.filter e = [] := List.filter_eq_nil_iff.2 fun w hw hew =>
        Bool.false_ne_true (hev.symm.trans (he v w (Int.le_of_lt (hlt w hw)) hew))
      rw [hev, if_neg Bool.false_ne_true, Int.add_zero] at h1
      rw [if_neg Bool.false_ne_true]
      exact ⟨fun _ => (g1 hnil).trans h1, fun hne => absurd hnil hne, fun hok => g3 (h2 hok)⟩
    | true =>
      rw [hev, if_pos rfl] at h1
      rw [if_pos rfl]
      refine ⟨nofun, fun _ => ?_, fun hok => g3 (h2 hok)⟩
      rw [layers]
      by_cases hF : vs.filter e = []
      · rw [g1 hF, hF, h1, layers]
        omega
      · rw [g2 hF, h1]
        omega

theorem potsInputs_length (cfg : Config) (s : State) : (potsInputs cfg s).2.1.length = cfg.n := by
  unfold potsInputs playerIndices
  split <;> simp

theorem potsInputs_sum (cfg : Config) (s : State) (hp : s.payoffs.length = cfg.n) (hb : s.bets.length = cfg.n) :
    (potsInputs cfg s).1 + sumI (potsInputs cfg s).2.1 = inPots s := by
  unfold potsInputs playerIndices inPots
  have e1 : sumI ((List.range cfg.n).map fun i => - getI s.payoffs i - getI s.bets i)
      = - sumI s.payoffs - sumI s.bets := by
    rw [sumI_map_sub, sumI_map_neg, sumI_range_getI _ _ hp, sumI_range_getI _ _ hb]
  split
  · simp only
    rw [sumI_map_sub, sumI_range_getI _ _ (by simp), e1]
    omega
  · simp only
    rw [e1]; omega

theorem pots_cases {s : State} {ps : List Pot} (hnone : s.pots_ = none) (h : s.pots cfg = .ok ps) :
    (sumI s.payoffs = - sumI s.bets ∧ ps = []) ∨
    (sumI s.payoffs ≠ - sumI s.bets ∧ ∃ rp a pv, ps = rp.reverse ∧
      (sortedSet (potsInputs cfg s).2.1).foldl
        (potsStep cfg s (potsInputs cfg s).2.1 (potsInputs cfg s).2.2)
        (.ok ([], (potsInputs cfg s).1, 0)) = .ok (rp, a, pv)) := by
  unfold State.pots at h
  rw [hnone] at h
  simp only at h
  split at h
  · next heq =>
    cases h
    exact .inl ⟨by simpa using heq, rfl⟩
  · next hne =>
    split at h
    · cases h
    · split at h
      · cases h
      · next r hfold =>
        cases h
        exact .inr ⟨by simpa using hne, r.1, r.2.1, r.2.2, rfl, hfold⟩

theorem pots_sum (cfg : Config) (s : State) (ps : List Pot)
    (hp : s.payoffs.length = cfg.n) (hb : s.bets.length = cfg.n) (hnone : s.pots_ = none)
    (h : s.pots cfg = .ok ps) :
    potsTotal ps = inPots s ∧ ∀ p ∈ ps, PotOk cfg.n p := by
  rcases pots_cases hnone h with ⟨heq, rfl⟩ | ⟨hne, rp, a, pv, rfl, hfold⟩
  · exact ⟨by rw [potsTotal_nil, inPots]; omega, by simp⟩
  · have hlen := potsInputs_length cfg s
    have hsum := potsInputs_sum cfg s hp hb
    obtain ⟨-, g, g3⟩ := foldl_potsStep (fun _ => true) (fun _ => true) hlen (fun _ _ _ _ => rfl)
      (strictSorted_sortedSet _) (fun _ _ => rfl) hfold
    refine ⟨?_, fun q hq => g3 (by simp) q (List.mem_reverse.1 hq)⟩
    rw [List.filter_eq_self.2 fun _ _ => rfl, potsOn_true, potsOn_true, potsTotal_nil,
      layers_total _ 0 _ (strictSorted_sortedSet _) (fun c hc => (mem_sortedSet _ c).2 hc)] at g
    simp only [Int.sub_zero, List.map_id'] at g
    rw [potsTotal_reverse, g fun hv => ?_]
    · omega
    · -- no level at all: there are no players, so no chips
      have hnil : (potsInputs cfg s).2.1 = [] :=
        List.eq_nil_iff_forall_not_mem.2 fun c hc => by simpa [hv] using (mem_sortedSet _ c).2 hc
      have hn : cfg.n = 0 := by rw [← hlen, hnil]; rfl
      rw [List.eq_nil_of_length_eq_zero (hp.trans hn), List.eq_nil_of_length_eq_zero (hb.trans hn)] at hne
      exact hne rfl

end PK
