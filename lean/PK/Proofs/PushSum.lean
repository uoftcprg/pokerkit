/-
  PK.Proofs.PushSum — the arithmetic of pushing the pots out.  `_begin_chips_pushing` splits each frozen pot over
  the boards and, per board, over the hand types somebody holds, the remainders going to the first board and the
  first hand type: the sub-pots it queues add up to the pots, and none is negative.  Every push takes exactly its
  sub-pot out of its pot.  (That nothing is left in the pots once the queue is empty is `C01_end_of_hand`, C01End.lean.)
-/
import PK.Proofs.Ledger
namespace PK
open M

variable {cfg : Config} {env : Env}

theorem divmod_spec {a k q r : Int} (h : State.divmod cfg a k = .ok (q, r)) :
    q * k + r = a ∧ (0 ≤ a → 0 < k → 0 ≤ q ∧ 0 ≤ r) := by
  unfold State.divmod at h
  split at h
  · cases h
  · rename_i hk
    simp only [Except.ok.injEq, Prod.mk.injEq] at h
    obtain ⟨hq, hr⟩ := h
    rw [hq] at hr
    refine ⟨by omega, ?_⟩
    intro ha hkpos
    have e1 : Int.fdiv a k = a / k := Int.fdiv_eq_ediv_of_nonneg a (by omega)
    have h0 : 0 ≤ a / k := Int.ediv_nonneg ha (by omega)
    have h1 : a / k * k ≤ a := Int.ediv_mul_le a (by omega)
    by_cases hc : cfg.divChunk ≤ 1
    · simp only [hc, if_true] at hq
      rw [e1] at hq
      subst hq
      exact ⟨h0, by omega⟩
    · simp only [hc, if_false] at hq
      rw [e1] at hq
      have e2 : Int.fdiv (a / k) cfg.divChunk = a / k / cfg.divChunk :=
        Int.fdiv_eq_ediv_of_nonneg _ (by omega)
      rw [e2] at hq
      have g0 : 0 ≤ a / k / (cfg.divChunk : Int) := Int.ediv_nonneg h0 (by omega)
      have g1 : a / k / (cfg.divChunk : Int) * cfg.divChunk ≤ a / k := Int.ediv_mul_le _ (by omega)
      have g2 : 0 ≤ q := by rw [← hq]; exact Int.mul_nonneg g0 (by omega)
      have g3 : q ≤ a / k := by rw [← hq]; exact g1
      refine ⟨g2, ?_⟩
      have : q * k ≤ a / k * k := Int.mul_le_mul_of_nonneg_right g3 (by omega)
      omega

theorem divmod_ne_zero {a k : Int} {qr : Int × Int} (h : State.divmod cfg a k = .ok qr) : k ≠ 0 := by
  intro hk
  simp [State.divmod, hk] at h

def subTotal (sps : List SubPot) : Int := sumI (sps.map (·.amount))

theorem subTotal_append (a b : List SubPot) : subTotal (a ++ b) = subTotal a + subTotal b := by
  unfold subTotal; rw [List.map_append, sumI_append]

theorem subTotal_filterMap (l : List Nat) (a : Nat → Int) (mk : Nat → Int → SubPot)
    (hmk : ∀ k x, (mk k x).amount = x) :
    subTotal (l.filterMap fun k => if a k != 0 then some (mk k (a k)) else none) = sumI (l.map a) := by
  induction l with
  | nil => rfl
  | cons k ks ih =>
    simp only [List.filterMap_cons, List.map_cons, sumI_cons]
    by_cases hz : (a k != 0) = true
    · simp only [hz, if_true]
      unfold subTotal at ih ⊢
      simp only [List.map_cons, sumI_cons, hmk, ih]
    · have h0 : a k = 0 := by simpa using hz
      have hf : (a k != 0) = false := by simpa using hz
      simp only [hf, Bool.false_eq_true, if_false]
      rw [ih, h0]; simp

theorem shares_sum (ws : List Nat) (q r : Int) (hnd : ws.Nodup) (hne : ws ≠ []) :
    sumI (ws.map fun i => if some i == ws.head? then q + r else q) = q * ws.length + r := by
  cases ws with
  | nil => exact absurd rfl hne
  | cons w ws =>
    have hwn : w ∉ ws := (List.nodup_cons.1 hnd).1
    rw [List.map_cons, sumI_cons]
    have e1 : (if some w == (w :: ws).head? then q + r else q) = q + r := by simp
    have e2 : sumI (ws.map fun i => if some i == (w :: ws).head? then q + r else q)
        = sumI (ws.map fun _ => q) := by
      apply sumI_map_congr
      intro i hi
      have : i ≠ w := fun e => hwn (e ▸ hi)
      simp [this]
    rw [e1, e2, sumI_map_const]
    simp only [List.length_cons]
    push_cast
    rw [Int.mul_add]; omega

theorem sum_board_shares (q r : Int) (b : Nat) (hb : 0 < b) :
    sumI ((List.range b).map fun j => if j == 0 then q + r else q) = q * b + r := by
  have := shares_sum (List.range b) q r List.nodup_range (by simp; omega)
  rw [List.length_range, List.head?_range, if_neg (by omega)] at this
  rw [← this]
  exact sumI_map_congr _ _ _ fun j _ => by simp

theorem subPotsOfPot_spec {s : State} {i : Nat} {pot : Pot} {l : List SubPot}
    (hbc : 0 < s.boardCount cfg) (h : subPotsOfPot cfg env s i pot = .ok l) :
    subTotal l = pot.unraked ∧ (0 ≤ pot.unraked → ∀ sp ∈ l, 0 ≤ sp.amount) := by
  unfold subPotsOfPot at h
  split at h
  · cases h
  · rename_i q r hdm
    obtain ⟨hqr, hpos⟩ := divmod_spec hdm
    have hb : 0 < (s.boardCount cfg).toNat := by omega
    have hcast : ((s.boardCount cfg).toNat : Int) = s.boardCount cfg := Int.toNat_of_nonneg (by omega)
    -- over the boards: what is queued and what the boards to come will get is the whole pot
    have := foldlE_inv (fun _ _ => rfl)
      (fun rem out => subTotal out + sumI (rem.map fun j => if j == 0 then q + r else q) = pot.unraked ∧
        (0 ≤ pot.unraked → ∀ sp ∈ out, 0 ≤ sp.amount)) ?step ?init h
    case init =>
      unfold State.boardIndices
      rw [sum_board_shares q r _ hb, hcast]
      exact ⟨by rw [hqr]; exact Int.zero_add _, nofun⟩
    case step =>
      intro j rem out out' ⟨hsum, hnn⟩ hj
      dsimp only at hj
      split at hj
      · cases hj
      · rename_i hts hh
        split at hj
        · cases hj
        · rename_i sq sr hd
          cases hj
          -- the hand types held on board `j` are distinct
          have hnd : hts.Nodup := by
            have := foldlE_inv (fun _ _ => rfl) (fun rem l => (l ++ rem).Nodup) ?_
              (List.nodup_range (n := cfg.handTypes.length)) hh
            · simpa using this
            · intro k rem l l' hI hk
              dsimp only at hk
              split at hk
              · cases hk
              · split at hk
                · cases hk; simpa using hI
                · cases hk; exact hI.sublist ((List.sublist_cons_self k rem).append_left l)
          obtain ⟨hshare, hspos⟩ := divmod_spec hd
          have hlen : (0 : Int) < hts.length := by have := divmod_ne_zero hd; omega
          rw [List.map_cons, sumI_cons] at hsum
          refine ⟨?_, fun hun sp hsp => ?_⟩
          · rw [subTotal_append, subTotal_filterMap hts (fun k => if some k == hts.head? then sq + sr else sq)
              (fun k x => ⟨x, i, some j, some k⟩) (fun _ _ => rfl)]
            rw [shares_sum hts sq sr hnd (by rintro rfl; cases hlen)]
            omega
          · rcases List.mem_append.1 hsp with h1 | h1
            · exact hnn hun sp h1
            · obtain ⟨k, _, hk⟩ := List.mem_filterMap.1 h1
              obtain ⟨hq, hr⟩ := hpos hun hbc
              obtain ⟨hsq, hsr⟩ := hspos (by split <;> omega) hlen
              rw [Option.ite_none_right_eq_some] at hk
              obtain ⟨_, hk⟩ := hk
              cases hk
              dsimp only
              split <;> omega
    simpa using this

theorem subPotsOfPot_sum {s : State} {i : Nat} {pot : Pot} {l : List SubPot}
    (hbc : 0 < s.boardCount cfg) (h : subPotsOfPot cfg env s i pot = .ok l) : subTotal l = pot.unraked :=
  (subPotsOfPot_spec hbc h).1

/-- what the frozen pots still hold for the players: the unraked parts, the rake is not counted -/
def potTotal (ps : List Pot) : Int := sumI (ps.map (·.unraked))

theorem freezePots_spec {s s' : State} (hbc : 0 < s.boardCount cfg) (hf : freezePots cfg env s = .ok s') :
    ∃ ps, State.pots cfg { s with streetIndex := none } = .ok ps ∧ s'.pots_ = some ps ∧
      (1 ≤ s.liveCount → potTotal ps = subTotal s'.subPots) ∧
      ((∀ p ∈ ps, 0 ≤ p.unraked) → (∀ sp ∈ s.subPots, 0 ≤ sp.amount) → ∀ sp ∈ s'.subPots, 0 ≤ sp.amount) := by
  unfold freezePots at hf
  simp only at hf
  split at hf
  · cases hf
  · rename_i ps hpots
    have hmem : ∀ x ∈ ps.zipIdx, x.1 ∈ ps := fun _ => List.fst_mem_of_mem_zipIdx
    have hfst : sumI (ps.zipIdx.map fun x => x.1.unraked) = potTotal ps := by
      unfold potTotal
      rw [show (fun x : Pot × Nat => x.1.unraked) = (fun p : Pot => p.unraked) ∘ Prod.fst from rfl, ← List.map_map,
        List.zipIdx_map_fst]
    refine ⟨ps, hpots, ?_⟩
    split at hf
    · cases hf
      refine ⟨rfl, fun _ => ?_, fun hun _ sp hsp => ?_⟩
      · rw [← hfst]; unfold subTotal; rw [List.map_map]; rfl
      · obtain ⟨x, hx, rfl⟩ := List.mem_map.1 hsp
        exact hun x.1 (hmem x hx)
    · split at hf
      · split at hf
        · cases hf
        · rename_i sp hfold
          cases hf
          -- over the pots: what is queued and what the pots to come hold is all that is in the pots
          have := foldlE_inv (fun _ _ => rfl)
            (fun rem out => (∀ x ∈ rem, x.1 ∈ ps) ∧ subTotal out + sumI (rem.map fun x => x.1.unraked) = potTotal ps ∧
              ((∀ p ∈ ps, 0 ≤ p.unraked) → ∀ y ∈ out, 0 ≤ y.amount)) ?_
            ⟨hmem, by rw [hfst]; exact Int.zero_add _, fun _ _ hy => by cases hy⟩ hfold
          · exact ⟨rfl, fun _ => by simpa using this.2.1.symm, fun hun _ => this.2.2 hun⟩
          · intro x rem out out' ⟨hps, hsum, hnn⟩ hx
            dsimp only at hx
            split at hx
            · cases hx
            · rename_i l hl
              cases hx
              obtain ⟨h1, h2⟩ := subPotsOfPot_spec hbc hl
              rw [List.map_cons, sumI_cons] at hsum
              refine ⟨fun y hy => hps y (List.mem_cons_of_mem _ hy), by rw [subTotal_append]; omega,
                fun hun y hy => ?_⟩
              rcases List.mem_append.1 hy with hy | hy
              · exact hnn hun y hy
              · exact h2 (hun _ (hps x List.mem_cons_self)) y hy
      · -- nobody left in the hand: nothing is queued
        rename_i h1 h2
        cases hf
        refine ⟨rfl, fun hlive => ?_, fun _ h0 => h0⟩
        have : s.liveCount = ({ s with streetIndex := none, pots_ := some ps } : State).liveCount := rfl
        simp only [beq_iff_eq] at h1
        omega

theorem freezePots_sum {s s' : State} (hbc : 0 < s.boardCount cfg) (hlive : 1 ≤ s.liveCount)
    (hf : freezePots cfg env s = .ok s') :
    ∃ ps, s'.pots_ = some ps ∧ potTotal ps = subTotal s'.subPots := by
  obtain ⟨ps, -, hps, hsum, -⟩ := freezePots_spec hbc hf
  exact ⟨ps, hps, hsum hlive⟩

theorem pushChips_sum {s s' : State} {ps : List Pot} {sp : SubPot} {sps : List SubPot} {op : Operation}
    (hpush : pushChips cfg env s ps sp sps = .ok (s', op)) :
    ∃ ps', s'.pots_ = some ps' ∧ potTotal ps' = potTotal ps - sp.amount ∧ s'.subPots = sps := by
  obtain ⟨pot, bets, hpot, -, rfl, -⟩ := pushChips_ok hpush
  refine ⟨_, rfl, ?_, rfl⟩
  unfold potTotal
  rw [sumI_map_set ps _ _ _ hpot]
  dsimp only
  omega

end PK
