/-
  PK.Proofs.RoundLemmas — list facts about a betting round: the largest entry after one entry is raised (`maxI` of the
  bets after a call or a raise), the second largest entry of a sorted copy (`sorted(...)[-2]`), rotations of `range n`
  (the order of the actors).
-/
import PK.Proofs.Sorted
namespace PK

theorem maxI_set_ge (l : List Int) (p : Nat) (v : Int) (hp : p < l.length) (hv : maxI l ≤ v) :
    maxI (l.set p v) = v := by
  refine (maxI_eq_iff (List.ne_nil_of_mem (List.mem_set hp v))).2 ⟨List.mem_set hp v, fun y hy => ?_⟩
  rcases List.mem_or_eq_of_mem_set hy with h | rfl
  · exact Int.le_trans (le_maxI l y h) hv
  · exact Int.le_refl _

theorem maxI_set_mid (l : List Int) (p : Nat) (v : Int) (hp : p < l.length)
    (hlo : getI l p ≤ v) (hhi : v ≤ maxI l) : maxI (l.set p v) = maxI l := by
  refine (maxI_eq_iff (List.ne_nil_of_mem (List.mem_set hp v))).2 ⟨?_, fun y hy => ?_⟩
  · obtain ⟨i, hi, hie⟩ := mem_getI (maxI_mem l (List.ne_nil_of_length_pos (by omega)))
    by_cases hip : p = i
    · -- the largest entry was `p`'s: then `v` is the largest
      have : v = maxI l := by subst hip; omega
      rw [← this]; exact List.mem_set hp v
    · rw [← hie, ← getI_set_ne l p i v hip]
      exact getI_mem _ _ (by simpa using hi)
  · rcases List.mem_or_eq_of_mem_set hy with h | rfl
    · exact le_maxI l y h
    · exact hhi

theorem sorted_second (l : List Int) (x : Int) (hs : Sorted l)
    (hc : 2 ≤ l.countP (fun y => decide (x ≤ y))) : x ≤ l.getD (l.length - 2) 0 := by
  induction l with
  | nil => simp at hc
  | cons y ys ih =>
    obtain ⟨hall, hys⟩ := List.pairwise_cons.1 hs
    by_cases hy : x ≤ y
    · -- every entry is `≥ y ≥ x`
      have hlen : 2 ≤ (y :: ys).length := Nat.le_trans hc List.countP_le_length
      have hm : (y :: ys).getD ((y :: ys).length - 2) 0 ∈ y :: ys := getI_mem _ _ (by omega)
      rcases List.mem_cons.1 hm with h | h
      · rw [h]; exact hy
      · exact Int.le_trans hy (hall _ h)
    · have hc' : 2 ≤ ys.countP (fun y => decide (x ≤ y)) := by
        simpa [List.countP_cons, hy] using hc
      have hl2 : 2 ≤ ys.length := Nat.le_trans hc' List.countP_le_length
      have e : (y :: ys).length - 2 = (ys.length - 2) + 1 := by simp; omega
      rw [e]
      exact ih hys hc'

theorem second_ge_min (n : Nat) (f : Nat → Option Int) (i j : Nat) (hi : i < n) (hj : j < n) (hij : i ≠ j)
    (ti tj : Int) (hfi : f i = some ti) (hfj : f j = some tj) :
    min ti tj ≤ (sortI ((List.range n).filterMap f)).getD ((sortI ((List.range n).filterMap f)).length - 2) 0 := by
  apply sorted_second _ _ (sorted_sortI _)
  -- `i` and `j` are two different entries of `range n` that count
  rw [(perm_sortI _).countP_eq, List.countP_filterMap, List.countP_eq_length_filter]
  have hnd : [i, j].Nodup := by simp [hij]
  refine hnd.length_le_of_subset fun x hx => List.mem_filter.2 ?_
  simp only [List.mem_cons, List.not_mem_nil, or_false] at hx
  rcases hx with rfl | rfl
  · simp [hi, hfi]; omega
  · simp [hj, hfj]; omega

theorem perm_rotatedRange (n k : Nat) : (rotatedRange n k).Perm (List.range n) :=
  List.perm_append_comm.trans (.of_eq (List.take_append_drop k _))

theorem mem_rotatedRange (n k i : Nat) : i ∈ rotatedRange n k ↔ i < n :=
  (perm_rotatedRange n k).mem_iff.trans List.mem_range

theorem nodup_rotatedRange (n k : Nat) : (rotatedRange n k).Nodup :=
  (perm_rotatedRange n k).nodup_iff.2 List.nodup_range

theorem rotatedRange_head (n p : Nat) (hp : p < n) : rotatedRange n p = p :: (rotatedRange n p).drop 1 := by
  unfold rotatedRange
  rw [List.drop_eq_getElem_cons (by simpa using hp)]
  simp

end PK
