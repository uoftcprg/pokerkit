/-
  PK.Proofs.Select — python's `min`/`max` with a key (`pickBy`, `argmaxKey`), `list.index`
  (`indexOf?`), the two combined (`index_pickBy`: who holds the best value), `mapExcept`, the `deque.remove`
  loop as a filter, and the loop of `_begin_betting` that takes out of the fresh queue who cannot act.
-/
import PK.Model.Machine
import PK.Proofs.ListLemmas
namespace PK
open State M

theorem pickBy_concat {α} (better : α → α → Bool) (l : List α) (c : α) :
    pickBy better (l ++ [c]) =
      match pickBy better l with
      | none => some c
      | some m => if better c m then some c else some m := by
  unfold pickBy
  rw [List.foldl_append]
  rfl

/-- `trans` is transitivity of `better`, contraposed. -/
theorem pickBy_spec {α} (better : α → α → Bool)
    (irrefl : ∀ a, better a a = false)
    (trans : ∀ a b c, better a b = false → better c b = true → better a c = false)
    (l : List α) :
    (l = [] ∧ pickBy better l = none) ∨
    (∃ m, pickBy better l = some m ∧ m ∈ l ∧ ∀ c ∈ l, better c m = false) := by
  -- the statement is its own invariant when the list grows at the end, as the fold runs
  rw [← l.reverse_reverse]
  generalize l.reverse = r
  induction r with
  | nil => exact Or.inl ⟨rfl, rfl⟩
  | cons c r ih =>
    right
    rw [List.reverse_cons, pickBy_concat]
    simp only [List.mem_append, List.mem_singleton]
    rcases ih with ⟨hnil, hnone⟩ | ⟨m, hm, hmem, hall⟩
    · rw [hnone, hnil]
      refine ⟨c, rfl, Or.inr rfl, ?_⟩
      rintro x (h | rfl)
      · cases h
      · exact irrefl x
    · rw [hm]
      dsimp only
      split
      · rename_i hb
        refine ⟨c, rfl, Or.inr rfl, ?_⟩
        rintro x (h | rfl)
        · exact trans x m c (hall x h) hb
        · exact irrefl x
      · rename_i hb
        refine ⟨m, rfl, Or.inl hmem, ?_⟩
        rintro x (h | rfl)
        · exact hall x h
        · exact (Bool.not_eq_true _).mp hb

theorem argmaxKey_eq_pickBy (key : Nat → Int) (l : List Nat) :
    argmaxKey key l =
      (pickBy (fun i b => decide (key i > key b) || (key i == key b && decide (i > b))) l).map
        fun i => (key i, i) := by
  unfold argmaxKey pickBy
  refine List.foldl_hom (Option.map fun i => (key i, i)) (l := l) (init := none) fun x y => ?_
  cases x with
  | none => rfl
  | some m =>
    simp only [Option.map]
    split <;> rfl

/-- python's `max(range(n), key=lambda i: (key i, i))` -/
theorem argmaxKey_range (key : Nat → Int) (n : Nat) (hn : 0 < n) :
    ∃ m, argmaxKey key (List.range n) = some (key m, m) ∧ m < n ∧
      ∀ j < n, key j ≤ key m ∧ (key j = key m → j ≤ m) := by
  -- "`(key i, i)` does not beat `(key b, b)`" is the conclusion word for word
  have hiff : ∀ i b, (decide (key i > key b) || (key i == key b && decide (i > b))) = false ↔
      key i ≤ key b ∧ (key i = key b → i ≤ b) := by simp
  rcases pickBy_spec (fun i b => decide (key i > key b) || (key i == key b && decide (i > b)))
      (fun a => (hiff a a).mpr ⟨Int.le_refl _, fun _ => Nat.le_refl _⟩)
      (fun a b c h1 h2 => by
        rw [← Bool.not_eq_false, hiff] at h2
        rw [hiff] at h1 ⊢
        omega)
      (List.range n) with ⟨h, _⟩ | ⟨m, hm, hmem, hall⟩
  · exact absurd (List.range_eq_nil.mp h) (by omega)
  · exact ⟨m, by rw [argmaxKey_eq_pickBy, hm]; rfl, List.mem_range.mp hmem,
      fun j hj => (hiff j m).mp (hall j (List.mem_range.mpr hj))⟩

theorem indexOf?_spec {α} [BEq α] [LawfulBEq α] (l : List α) (x : α) (i : Nat)
    (h : indexOf? l x = some i) : i < l.length ∧ l[i]? = some x ∧ ∀ j < i, l[j]? ≠ some x := by
  unfold indexOf? at h
  simp only at h
  split at h
  · rename_i hlt
    cases h
    refine ⟨hlt, by rw [List.getElem?_eq_getElem hlt, List.getElem_idxOf hlt], fun j hj => ?_⟩
    have hjl : j < l.length := by omega
    simpa [List.getElem?_eq_getElem hjl] using List.not_of_lt_findIdx hj
  · cases h

/-- `vals.index(min_or_none(vals))` (or `max`), `vals` the values `f 0, …, f (n-1)` of the seats:
    the first seat whose value no seat's value beats -/
theorem index_pickBy {α} [BEq (Option α)] [LawfulBEq (Option α)] (better : α → α → Bool)
    (irrefl : ∀ a, better a a = false)
    (trans : ∀ a b c, better a b = false → better c b = true → better a c = false)
    (vals : List (Option α)) (f : Nat → Option α) (n i : Nat)
    (hlen : vals.length = n) (hget : ∀ j < n, vals[j]? = some (f j))
    (h : indexOf? vals (pickBy better (vals.filterMap id)) = some i)
    (hsome : ∃ j < n, f j ≠ none) :
    i < n ∧ ∃ e, f i = some e ∧ (∀ j < n, ∀ e', f j = some e' → better e' e = false) ∧
      ∀ j < i, f j ≠ some e := by
  have hmem : ∀ j < n, ∀ e, f j = some e → e ∈ vals.filterMap id := fun j hj e he =>
    List.mem_filterMap.mpr ⟨some e, List.mem_of_getElem? (he ▸ hget j hj), rfl⟩
  obtain ⟨j0, hj0, hne⟩ := hsome
  obtain ⟨e0, he0⟩ := Option.ne_none_iff_exists'.mp hne
  rcases pickBy_spec better irrefl trans (vals.filterMap id) with ⟨hnil, _⟩ | ⟨m, hm, _, hall⟩
  · have := hmem j0 hj0 e0 he0
    rw [hnil] at this
    cases this
  · rw [hm] at h
    obtain ⟨hlt, hi, hfirst⟩ := indexOf?_spec _ _ _ h
    rw [hlen] at hlt
    rw [hget i hlt] at hi
    refine ⟨hlt, m, Option.some.inj hi, fun j hj e' he' => hall e' (hmem j hj e' he'),
      fun j hj hje => hfirst j hj ?_⟩
    rw [hget j (by omega), hje]

theorem mapExcept_getElem? {α β} (f : α → Except Err β) :
    ∀ (l : List α) (out : List β), mapExcept f l = .ok out →
      out.length = l.length ∧ ∀ j (hj : j < l.length), ∃ y, f l[j] = .ok y ∧ out[j]? = some y := by
  intro l
  induction l with
  | nil => intro out h; cases h; simp
  | cons x xs ih =>
    intro out h
    unfold mapExcept at h
    split at h
    · cases h
    · rename_i y hy
      split at h
      · cases h
      · rename_i ys hys
        cases h
        obtain ⟨hl, hall⟩ := ih ys hys
        refine ⟨by simp [hl], fun j hj => ?_⟩
        cases j with
        | zero => exact ⟨y, hy, rfl⟩
        | succ k => simpa using hall k (by simpa using hj)

/-- `for i in is: if bad(i): deque.remove(i)` -/
theorem foldl_erase_filter (bad : Nat → Bool) (is L : List Nat) (hL : L.Nodup) :
    is.foldl (fun acc i => if bad i then acc.erase i else acc) L =
      L.filter fun a => !(bad a && is.contains a) := by
  induction is generalizing L with
  | nil => exact (List.filter_eq_self.mpr fun _ _ => by simp).symm
  | cons i is ih =>
    have hstep : (if bad i then L.erase i else L) = L.filter fun a => !(bad i && a == i) := by
      cases bad i
      · exact (List.filter_eq_self.mpr fun _ _ => by simp).symm
      · simp [hL.erase_eq_filter, bne]
    rw [List.foldl_cons, hstep, ih _ (hL.filter _), List.filter_filter]
    apply List.filter_congr
    intro a _
    by_cases hai : a = i
    · subst hai
      cases bad a <;> simp
    · simp [hai]

/-- `not statuses[i] or not stacks[i] or not get_effective_stack(i)` -/
def cannotAct (cfg : Config) (s : State) (i : Nat) : Bool :=
  !getB s.statuses i || getI s.stacks i == 0 ||
    (match s.effectiveStack cfg i with | .ok eff => eff == 0 | .error _ => false)

/-- the body of the loop of `_begin_betting` that removes from the fresh queue who cannot act (the text of the arm
    of `step`: the proofs meet it there up to unfolding) -/
def dropBody (cfg : Config) (s : State) (acc : List Nat × Option Err) (i : Nat) : List Nat × Option Err :=
  match acc with
  | (actors, some e) => (actors, some e)
  | (actors, none) =>
    if !getB s.statuses i || getI s.stacks i == 0 then (actors.erase i, none)
    else match s.effectiveStack cfg i with
      | .error e => (actors, some e)
      | .ok eff => if eff == 0 then (actors.erase i, none) else (actors, none)

variable {cfg : Config}

theorem dropBody_none (s : State) (a : List Nat) (i : Nat) :
    dropBody cfg s (a, none) i = (if cannotAct cfg s i then a.erase i else a, none) ∨
      ∃ e, dropBody cfg s (a, none) i = (a, some e) := by
  unfold dropBody cannotAct
  generalize (!getB s.statuses i || getI s.stacks i == 0) = b
  cases b
  · cases s.effectiveStack cfg i with
    | error e => exact Or.inr ⟨e, rfl⟩
    | ok eff =>
      left
      by_cases h : (eff == 0) = true <;> simp [h]
  · exact Or.inl rfl

theorem dropBody_foldl (s : State) (is : List Nat) (init actors : List Nat)
    (h : is.foldl (dropBody cfg s) (init, none) = (actors, none)) :
    actors = is.foldl (fun acc i => if cannotAct cfg s i then acc.erase i else acc) init := by
  induction is generalizing init with
  | nil => cases h; rfl
  | cons i is ih =>
    rw [List.foldl_cons] at h
    rcases dropBody_none (cfg := cfg) s init i with h1 | ⟨e, h1⟩
    · rw [h1] at h; exact ih _ h
    · rw [h1, foldl_fixed (fun _ => rfl)] at h; cases h

end PK
