/-
  PK.Proofs.Sorted — `maxI`/`minI`, insertion sort `sortI`, `sortedSet`, `maxOrNone`.  On a non-empty list `maxI` and
  `minI` are the library's `List.max?` and `List.min?`, and `maxOrNone` is `List.max?` of the entries that are there;
  `sortI l` is a sorted permutation of `l` (`Sorted`, `StrictSorted`: `List.Pairwise`), and what it keeps (members,
  length, sum) is read off the permutation; `sortedSet l` is strictly sorted and has the members of `l`.
-/
import PK.Proofs.ListLemmas
namespace PK

theorem maxI_eq_iff {l : List Int} (h : l ≠ []) {a : Int} : maxI l = a ↔ a ∈ l ∧ ∀ b ∈ l, b ≤ a := by
  cases l with
  | nil => exact absurd rfl h
  | cons x xs => rw [← List.max?_eq_some_iff, List.max?_cons', Option.some.injEq]; rfl

theorem minI_eq_iff {l : List Int} (h : l ≠ []) {a : Int} : minI l = a ↔ a ∈ l ∧ ∀ b ∈ l, a ≤ b := by
  cases l with
  | nil => exact absurd rfl h
  | cons x xs => rw [← List.min?_eq_some_iff, List.min?_cons', Option.some.injEq]; rfl

theorem maxI_mem (l : List Int) (h : l ≠ []) : maxI l ∈ l := ((maxI_eq_iff h).1 rfl).1

theorem le_maxI (l : List Int) (y : Int) (h : y ∈ l) : y ≤ maxI l :=
  ((maxI_eq_iff (List.ne_nil_of_mem h)).1 rfl).2 y h

theorem getI_le_maxI (l : List Int) (i : Nat) (h : i < l.length) : getI l i ≤ maxI l :=
  le_maxI l _ (getI_mem l i h)

theorem minI_le (l : List Int) (y : Int) (h : y ∈ l) : minI l ≤ y :=
  ((minI_eq_iff (List.ne_nil_of_mem h)).1 rfl).2 y h

def Sorted (l : List Int) : Prop := l.Pairwise (· ≤ ·)
def StrictSorted (l : List Int) : Prop := l.Pairwise (· < ·)

theorem le_getLastD : ∀ (ws : List Int) (d : Int), Sorted (d :: ws) → ∀ x ∈ d :: ws, x ≤ ws.getLastD d
  | [], d, _, x, hx => by simp_all
  | w :: ws, d, h, x, hx => by
    obtain ⟨hd, hws⟩ := List.pairwise_cons.1 h
    have ih := le_getLastD ws w hws
    rw [List.getLastD_cons]
    rcases List.mem_cons.1 hx with rfl | hx
    · exact Int.le_trans (hd w List.mem_cons_self) (ih w List.mem_cons_self)
    · exact ih x hx

theorem StrictSorted.sorted_cons {d : Int} {ws : List Int} (hs : StrictSorted ws) (hge : ∀ w ∈ ws, d ≤ w) :
    Sorted (d :: ws) :=
  List.pairwise_cons.2 ⟨hge, hs.imp Int.le_of_lt⟩

theorem perm_insSorted (x : Int) (l : List Int) : (insSorted x l).Perm (x :: l) := by
  induction l with
  | nil => exact .refl _
  | cons z zs ih =>
    simp only [insSorted]
    split
    · exact .refl _
    · exact (ih.cons z).trans (.swap x z zs)

theorem perm_sortI (l : List Int) : (sortI l).Perm l := by
  induction l with
  | nil => exact .refl _
  | cons x xs ih => exact (perm_insSorted x _).trans (ih.cons x)

theorem sorted_insSorted (x : Int) (l : List Int) (h : Sorted l) : Sorted (insSorted x l) := by
  induction l with
  | nil => exact List.pairwise_singleton _ _
  | cons z zs ih =>
    obtain ⟨hz, hzs⟩ := List.pairwise_cons.1 h
    simp only [insSorted]
    split
    · next hx =>
      refine List.pairwise_cons.2 ⟨fun y hy => ?_, h⟩
      rcases List.mem_cons.1 hy with rfl | hy
      · exact hx
      · exact Int.le_trans hx (hz y hy)
    · refine List.pairwise_cons.2 ⟨fun y hy => ?_, ih hzs⟩
      rcases List.mem_cons.1 ((perm_insSorted x zs).mem_iff.1 hy) with rfl | hy
      · omega
      · exact hz y hy

theorem sorted_sortI (l : List Int) : Sorted (sortI l) := by
  induction l with
  | nil => exact .nil
  | cons x xs ih => exact sorted_insSorted x _ ih

theorem mem_sortI (y : Int) (l : List Int) : y ∈ sortI l ↔ y ∈ l := (perm_sortI l).mem_iff

theorem length_sortI (l : List Int) : (sortI l).length = l.length := (perm_sortI l).length_eq

theorem sumI_sortI (l : List Int) : sumI (sortI l) = sumI l := sumI_perm (perm_sortI l)

theorem strictSorted_sortedSet (l : List Int) : StrictSorted (sortedSet l) :=
  (((sorted_sortI l).sublist (dedup_sublist _)).and (dedup_nodup _)).imp fun h => Int.lt_iff_le_and_ne.2 h

theorem mem_sortedSet (l : List Int) (y : Int) : y ∈ sortedSet l ↔ y ∈ l := by
  unfold sortedSet
  rw [mem_dedup, mem_sortI]

theorem maxOrNone_eq_max? (l : List (Option Int)) : State.maxOrNone l = (l.filterMap id).max? := by
  have cons_some (l : List (Option Int)) (a : Int) :
      State.maxOrNone (some a :: l) = some ((l.filterMap id).foldl max a) := by
    induction l generalizing a with
    | nil => rfl
    | cons x l ih => cases x <;> exact ih _
  induction l with
  | nil => rfl
  | cons x l ih =>
    cases x with
    | none => exact ih
    | some a => exact cons_some l a

end PK
