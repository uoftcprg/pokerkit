/-
  PK.Proofs.Step — what one micro-step does to the state, frame by frame, said once: how to run `step` at a given
  frame (`step_at`); which fields each frame may write (`Ctl.restore`, `step_restore`, `step_view`); the helpers of
  `step` as record updates of their argument; for the arms with a chain of updates, an equation with the updates
  named (`step_<frame>_eq`; the named updates `State.afterRound`, `State.raiseTo`, … repeat the text of the arm, and
  each equation holds by `rfl`, so they cannot drift from the model; `step_opRunout_eq` alone, whose arm goes through
  `runoutPlumb`, needs a case split on the two counts first).  What a step does to the control stack and the error
  register is in PK.Proofs.Control.
-/
import PK.Proofs.Ledger
import PK.Proofs.VerifyDeal
namespace PK
open State M

variable {cfg : Config} {env : Env}

theorem step_nil {m : M} (h : m.ctl = []) : step cfg env m = m := by
  cases m; cases h; rfl

theorem step_cons {m : M} {f : Ctl} {rest : List Ctl} (h : m.ctl = f :: rest) :
    step cfg env m = step cfg env ⟨m.st, f :: rest, m.err, m.warned⟩ := by
  rw [← h]

theorem raise_mk (m : M) (c : List Ctl) (e : Err) : M.raise ⟨m.st, c, m.err, m.warned⟩ e = m.raise e := rfl

theorem cont_mk (m : M) (c : List Ctl) (s : State) (fs rest : List Ctl) :
    M.cont ⟨m.st, c, m.err, m.warned⟩ s fs rest = m.cont s fs rest := rfl

@[simp] theorem raise_st (m : M) (e : Err) : (m.raise e).st = m.st := rfl
@[simp] theorem cont_st (m : M) (s : State) (a b : List Ctl) : (m.cont s a b).st = s := rfl

/-- `step_at h`, for `h : m.ctl = f :: rest` with `f` a constructor: rewrites `step cfg env m` in the goal to the
    arm of `f`, written with `m.raise` and `m.cont` as in the definition.  (Unfolding `step` and rewriting with `h`
    instead makes `rw` abstract over all 56 arms: five times the work.) -/
macro "step_at " h:term : tactic =>
  `(tactic| (rw [step_cons $h]; simp only [M.step, raise_mk, cont_mk]))

/-- `f.restore s s'`: `s'` with the fields that frame `f` may write put back to their values in `s` -/
def Ctl.restore (f : Ctl) (s s' : State) : State :=
  match f with
  | .beginAnte => { s' with antePosting := s.antePosting }
  | .opPostAnte _ => { s' with antePosting := s.antePosting, bets := s.bets, stacks := s.stacks, payoffs := s.payoffs }
  | .beginCollect => { s' with betCollection := s.betCollection }
  | .endCollect => { s' with streetIndex := s.streetIndex, streetReturnCount := s.streetReturnCount }
  | .opCollect => { s' with betCollection := s.betCollection, bets := s.bets, stacks := s.stacks, payoffs := s.payoffs }
  | .beginBlind => { s' with blindPosting := s.blindPosting }
  | .opPostBlind _ => { s' with blindPosting := s.blindPosting, bets := s.bets, stacks := s.stacks, payoffs := s.payoffs }
  | .beginDeal => { s' with streetIndex := s.streetIndex, cardBurning := s.cardBurning, boardDealing := s.boardDealing,
                            holeDealing := s.holeDealing, standingPat := s.standingPat }
  | .opBurn _ => { s' with deck := s.deck, burned := s.burned, mucked := s.mucked, discarded := s.discarded,
                           cardBurning := s.cardBurning }
  | .opDealHole _ _ => { s' with deck := s.deck, burned := s.burned, mucked := s.mucked, discarded := s.discarded,
                                 holeDealing := s.holeDealing, hole := s.hole, holeStatuses := s.holeStatuses }
  | .opDealBoard _ => { s' with deck := s.deck, burned := s.burned, mucked := s.mucked, discarded := s.discarded,
                                boardDealing := s.boardDealing, board := s.board }
  | .opDraw _ => { s' with standingPat := s.standingPat, holeDealing := s.holeDealing, hole := s.hole,
                           holeStatuses := s.holeStatuses, discarded := s.discarded }
  | .beginBet => { s' with openerIndex := s.openerIndex, bringInStatus := s.bringInStatus,
                           completionStatus := s.completionStatus, actors := s.actors, cbrAmount := s.cbrAmount,
                           cbrCount := s.cbrCount, acted := s.acted, consecAllIn := s.consecAllIn }
  | .endBet => { s' with actors := s.actors, allIn := s.allIn }
  | .opFold => { s' with actors := s.actors, acted := s.acted, mucked := s.mucked, statuses := s.statuses,
                         hole := s.hole, holeStatuses := s.holeStatuses }
  | .opCall => { s' with actors := s.actors, acted := s.acted, bets := s.bets, stacks := s.stacks, payoffs := s.payoffs }
  | .opBringIn => { s' with actors := s.actors, acted := s.acted, bets := s.bets, stacks := s.stacks,
                            payoffs := s.payoffs, bringInStatus := s.bringInStatus }
  | .opCbr _ => { s' with acted := s.acted, bets := s.bets, stacks := s.stacks, payoffs := s.payoffs,
                          bringInStatus := s.bringInStatus, completionStatus := s.completionStatus, actors := s.actors,
                          openerIndex := s.openerIndex, cbrAmount := s.cbrAmount, cbrCount := s.cbrCount,
                          consecAllIn := s.consecAllIn }
  | .beginShow => { s' with runoutSelectors := s.runoutSelectors, showdown := s.showdown }
  | .endShow => { s' with runoutFlag := s.runoutFlag, streetReturnIndex := s.streetReturnIndex,
                          streetReturnCount := s.streetReturnCount }
  | .opRunout _ _ => { s' with runoutSelectors := s.runoutSelectors, runoutCount := s.runoutCount }
  | .opShow _ _ => { s' with showdown := s.showdown, deck := s.deck, burned := s.burned, mucked := s.mucked,
                             discarded := s.discarded, hole := s.hole, holeStatuses := s.holeStatuses,
                             statuses := s.statuses, runoutSelectors := s.runoutSelectors }
  | .beginKill | .endKill => { s' with handKilling := s.handKilling }
  | .opKill _ => { s' with handKilling := s.handKilling, mucked := s.mucked, statuses := s.statuses, hole := s.hole,
                           holeStatuses := s.holeStatuses }
  | .beginPush => { s' with streetIndex := s.streetIndex, pots_ := s.pots_, subPots := s.subPots }
  | .opPush => { s' with subPots := s.subPots, pots_ := s.pots_, bets := s.bets }
  | .beginPull | .endPull => { s' with chipsPulling := s.chipsPulling }
  | .opPull _ => { s' with stacks := s.stacks, payoffs := s.payoffs, bets := s.bets, chipsPulling := s.chipsPulling }
  | .endHand => { s' with status := s.status }
  | .updAnte _ | .updCollect _ | .updBlind _ | .updDeal _ | .updBet _ _ | .updShow _ | .updKill _ | .updPush _
  | .updPull _ | .opNoOp => { s' with ops := s.ops }
  | _ => s'

theorem log_eq (s : State) (op : Option Operation) : M.log s op = { s with ops := (M.log s op).ops } := by
  cases op <;> rfl

theorem consumeCards_eq (s : State) (cs : List Card) :
    s.consumeCards env cs = { s with
      deck := (s.consumeCards env cs).deck, burned := (s.consumeCards env cs).burned
      mucked := (s.consumeCards env cs).mucked, discarded := (s.consumeCards env cs).discarded } := by
  have key (d b mk ds) : ({ s.consumeCards env cs with deck := d, burned := b, mucked := mk, discarded := ds } : State) =
      { s with deck := d, burned := b, mucked := mk, discarded := ds } := by
    unfold State.consumeCards
    refine (foldl_inv (fun x : State => ({ x with deck := d, burned := b, mucked := mk, discarded := ds } : State))
      _ ?_ _ _).trans ?_
    · exact fun _ _ => rfl
    · split <;> rfl
  exact key ..

theorem muckHoleCards_ok {s s' : State} {i : Nat} (h : s.muckHoleCards i = .ok s') :
    s' = { s with
      mucked := s.mucked ++ s.holeOf i, statuses := s.statuses.set i false
      hole := s.hole.set i [], holeStatuses := s.holeStatuses.set i [] } := by
  unfold State.muckHoleCards at h
  split at h <;> cases h
  rfl

theorem collectBets_eq (s : State) :
    (collectBets cfg s).1 = { s with
      betCollection := false, bets := (collectBets cfg s).1.bets
      stacks := (collectBets cfg s).1.stacks, payoffs := (collectBets cfg s).1.payoffs } := by
  have key (b st p) : ({ (collectBets cfg s).1 with bets := b, stacks := st, payoffs := p } : State) =
      { s with betCollection := false, bets := b, stacks := st, payoffs := p } := by
    unfold collectBets
    simp only []
    split
    · exact foldl_inv (fun x : State × List Int => ({ x.1 with bets := b, stacks := st, payoffs := p } : State))
        _ (fun _ _ => by unfold refundStep; split <;> rfl) _ _
    · rfl
  exact key ..

theorem dealSetup_eq (s : State) (st : Street) :
    dealSetup cfg env s st = { s with
      cardBurning := st.burn, boardDealing := (dealSetup cfg env s st).boardDealing
      holeDealing := (dealSetup cfg env s st).holeDealing, standingPat := (dealSetup cfg env s st).standingPat } := by
  unfold dealSetup
  simp only []
  split <;> rfl

theorem freezePots_ok_eq {s s' : State} (h : freezePots cfg env s = .ok s') :
    s' = { s with streetIndex := none, pots_ := s'.pots_, subPots := s'.subPots } := by
  unfold freezePots at h
  simp only [] at h
  repeat' split at h
  all_goals cases h
  all_goals rfl

theorem freezePots_error_eq {s s' : State} {e : Err} (h : freezePots cfg env s = .error (s', e)) :
    s' = { s with streetIndex := none, pots_ := s'.pots_ } := by
  unfold freezePots at h
  simp only [] at h
  repeat' split at h
  all_goals cases h
  all_goals rfl

theorem pushChips_ok_eq {s s' : State} {ps sp sps op} (h : pushChips cfg env s ps sp sps = .ok (s', op)) :
    s' = { s with subPots := sps, pots_ := s'.pots_, bets := s'.bets } := by
  obtain ⟨_, _, _, _, rfl, _⟩ := pushChips_ok h
  rfl

theorem pushChips_error_eq {s s' : State} {ps sp sps e} (h : pushChips cfg env s ps sp sps = .error (s', e)) :
    s' = { s with subPots := s'.subPots, pots_ := s'.pots_ } := by
  unfold pushChips at h
  simp only [] at h
  repeat' split at h
  all_goals cases h
  all_goals rfl

/-- `show_or_muck_hole_cards`, first half: the player leaves the showdown queue — outside the streets (a voluntary
    show after the hand) there is no queue to leave -/
def State.offQueue (cfg : Config) (s : State) (p : Nat) : State :=
  if (s.street cfg).isSome then { s with showdown := s.showdown.erase p } else s

/-- `show_or_muck_hole_cards`, second half: table the cards of the plan (the player's old cards go back to the deck
    first, the tabled ones come out of wherever they are), or muck -/
def State.showOrMuck (env : Env) (s : State) (pl : ShowPlan) : Except Err State :=
  if pl.status then
    let s := (s.produceCards (s.holeOf pl.player)).consumeCards env (pl.holeCards.filter Card.known)
    .ok { s with hole := s.hole.set pl.player pl.holeCards, holeStatuses := s.holeStatuses.set pl.player pl.holeStatuses }
  else match s.muckHoleCards pl.player with
    | .error e => .error e
    | .ok s' => .ok { s' with runoutSelectors := s'.runoutSelectors.set pl.player false }

theorem step_opShow_eq {m : M} {a : ShowArg} {i : Option Nat} {rest : List Ctl} (h : m.ctl = .opShow a i :: rest) :
    step cfg env m =
      match m.st.verifyShow cfg env a i with
      | .error e => m.raise e
      | .ok v =>
        match (m.st.offQueue cfg v.val.player).showOrMuck env v.val with
        | .error e => { m with st := m.st.offQueue cfg v.val.player, ctl := [], err := some e }
        | .ok s =>
          { m.cont s [.updShow (some (.holeCardsShowingOrMucking v.val.player v.val.cards))] rest with
            warned := m.warned || v.warned } := by
  rw [step_cons h]; rfl

theorem offQueue_eq (s : State) (p : Nat) : s.offQueue cfg p = { s with showdown := (s.offQueue cfg p).showdown } := by
  unfold State.offQueue; split <;> rfl

theorem offQueue_of_none {s : State} (h : (s.street cfg).isNone = true) (p : Nat) : s.offQueue cfg p = s := by
  unfold State.offQueue; rw [Option.isNone_iff_eq_none.1 h]; rfl

theorem showOrMuck_ok {s s' : State} {pl : ShowPlan} (h : s.showOrMuck env pl = .ok s') :
    (pl.status = true ∧ s' = { s with
      deck := s'.deck, burned := s'.burned, mucked := s'.mucked, discarded := s'.discarded
      hole := s.hole.set pl.player pl.holeCards, holeStatuses := s.holeStatuses.set pl.player pl.holeStatuses }) ∨
    (pl.status = false ∧ ∃ s₁, s.muckHoleCards pl.player = .ok s₁ ∧
      s' = { s₁ with runoutSelectors := s₁.runoutSelectors.set pl.player false }) := by
  unfold State.showOrMuck at h
  split at h
  · rename_i hst
    cases h
    exact Or.inl ⟨hst, by rw [consumeCards_eq]; rfl⟩
  · rename_i hst
    split at h
    · cases h
    · cases h; exact Or.inr ⟨by simpa using hst, _, ‹_›, rfl⟩

/-- `show_or_muck_hole_cards` by its outcomes: a property of the state survives the step if it holds when the
    operation is refused (nothing changes), when it stops after the player left the queue, and of whatever
    `showOrMuck` returns after that.  (`h₂` is also told the warning flag after the step: `cstep_opShow_cards` knows
    that the step raised no warning and needs that `verifyShow` raised none, i.e. that the cards named are dealable.) -/
theorem step_show {P : State → Prop} {m : M} {a : ShowArg} {i : Option Nat} {rest : List Ctl}
    (h : m.ctl = .opShow a i :: rest) (h₀ : P m.st) (h₁ : ∀ p, P (m.st.offQueue cfg p))
    (h₂ : ∀ {v s'}, m.st.verifyShow cfg env a i = .ok v → (step cfg env m).warned = (m.warned || v.warned) →
      (m.st.offQueue cfg v.val.player).showOrMuck env v.val = .ok s' → P s') : P (step cfg env m).st := by
  revert h₂
  rw [step_opShow_eq h]
  split
  · exact fun _ => h₀
  · split
    · exact fun _ => h₁ _
    · exact fun h₂ => h₂ ‹_› rfl ‹_›

/-- `_end_betting`: the all-in flag after a round on street `si` -/
def State.afterRound (cfg : Config) (s : State) (si : Int) : State :=
  let s :=
    if s.liveCount > 1 && !((cfg.streets.drop (si + 1).toNat).any (·.draw)) then
      if ((playerIndices cfg).filter fun i => getB s.statuses i && getI s.stacks i != 0).length ≤ 1 then
        { s with allIn := true } else s
    else s
  if s.stacks.any (· == 0) && si == (cfg.streets.length : Int) - 1 then { s with allIn := true } else s

theorem step_endBet_eq {m : M} {rest : List Ctl} (h : m.ctl = .endBet :: rest) :
    step cfg env m =
      match m.st.streetIndex with
      | none => m.raise .assertionError
      | some si => m.cont (({ m.st with actors := [] } : State).afterRound cfg si) [.beginCollect] rest := by
  rw [step_cons h]; rfl

theorem afterRound_eq (s : State) (si : Int) : s.afterRound cfg si = { s with allIn := (s.afterRound cfg si).allIn } := by
  simp only [State.afterRound]
  (repeat' split) <;> rfl

/-- `complete_bet_or_raise_to` after verification, for the actor `p`: the chips move and the raise is booked; the queue
    of actors still to come is set by the caller -/
def State.raiseTo (s : State) (p : Nat) (amount : Int) : State :=
  { s with
    acted := insNat p s.acted
    bets := s.bets.set p amount
    stacks := s.stacks.set p (getI s.stacks p - (amount - getI s.bets p))
    payoffs := s.payoffs.set p (getI s.payoffs p - (amount - getI s.bets p))
    bringInStatus := false
    completionStatus := false }

/-- `complete_bet_or_raise_to`, the bookkeeping of a raise by `inc` for the actor `p`, done once the queue of actors
    still to come is known to be non-empty -/
def State.bookRaise (s : State) (p : Nat) (inc : Int) : State :=
  let s := { s with openerIndex := some p }
  let s := if inc ≥ s.cbrAmount then { s with acted := [p] } else s
  let s := { s with cbrAmount := max s.cbrAmount inc, cbrCount := s.cbrCount + 1 }
  if getI s.stacks p != 0 then { s with consecAllIn := [] } else { s with consecAllIn := s.consecAllIn ++ [inc] }

theorem bookRaise_eq (s : State) (p : Nat) (inc : Int) :
    s.bookRaise p inc = { s with
      openerIndex := some p, acted := (s.bookRaise p inc).acted, cbrAmount := (s.bookRaise p inc).cbrAmount
      cbrCount := s.cbrCount + 1, consecAllIn := (s.bookRaise p inc).consecAllIn } := by
  simp only [State.bookRaise]
  (repeat' split) <;> rfl

theorem step_opCbr_eq {m : M} {a : Option Int} {rest : List Ctl} (h : m.ctl = .opCbr a :: rest) :
    step cfg env m =
      match m.st.verifyCbr cfg a with
      | .error e => m.raise e
      | .ok amount =>
        match m.st.actors with
        | [] => m.raise .indexError
        | p :: _ =>
          let s := m.st.raiseTo p amount
          let actors := ((rotatedRange cfg.n p).drop 1).filter fun i => getB s.statuses i && getI s.stacks i != 0
          if actors.isEmpty then { m with st := { s with actors := actors }, ctl := [], err := some .assertionError }
          else m.cont (({ s with actors := actors } : State).bookRaise p (amount - maxI m.st.bets))
            [.updBet (some (.completionBettingOrRaisingTo p amount)) false] rest := by
  rw [step_cons h]; rfl

/-- `_begin_showdown` on street `si`: in a cash game with board cards still to come everybody in the hand gets a say in
    the number of run-outs (once per hand); the showdown queue runs clockwise from the opener -/
def State.openShowdown (cfg : Config) (s : State) (si : Int) : State :=
  let s :=
    if !s.runoutFlag && !cfg.tournament then
      if (cfg.streets.drop (si + 1).toNat).any (·.board != 0) then
        { s with runoutSelectors := (playerIndices cfg).map fun i =>
            if getB s.statuses i then true else getB s.runoutSelectors i }
      else s
    else s
  let order := match s.openerIndex with
    | some o => rotatedRange cfg.n o
    | none => playerIndices cfg
  { s with showdown := order.filter fun i => getB s.statuses i && !allB (s.holeStatusesOf i) }

theorem step_beginShow_eq {m : M} {rest : List Ctl} (h : m.ctl = .beginShow :: rest) :
    step cfg env m =
      if anyB m.st.runoutSelectors || !m.st.showdown.isEmpty then m.raise .assertionError
      else match m.st.streetIndex with
        | none => m.raise .assertionError
        | some si => m.cont (m.st.openShowdown cfg si) [.updShow none] rest := by
  rw [step_cons h]; rfl

theorem openShowdown_eq (s : State) (si : Int) :
    s.openShowdown cfg si = { s with
      runoutSelectors := (s.openShowdown cfg si).runoutSelectors, showdown := (s.openShowdown cfg si).showdown } := by
  simp only [State.openShowdown]
  (repeat' split) <;> rfl

/-- how `select_runout_count` folds one preference into the recorded count -/
def consensusStep (acc : Option Int) (pref : Option Int) : Option Int :=
  match pref with
  | none => acc
  | some c => match acc with
    | none => some c
    | some rc => if rc != c then some 1 else some rc

theorem consensusStep_pos {acc pref : Option Int} (ha : ∀ c, acc = some c → 1 ≤ c) (hp : ∀ c, pref = some c → 1 ≤ c) :
    ∀ c, consensusStep acc pref = some c → 1 ≤ c := by
  intro c hc
  unfold consensusStep at hc
  repeat' split at hc
  · exact ha c hc
  · exact hp c hc
  · cases hc
    exact Int.le_refl 1
  · exact ha c hc

theorem step_opRunout_eq {m : M} {count : Option Int} {i : Option Nat} {rest : List Ctl}
    (h : m.ctl = .opRunout count i :: rest) :
    step cfg env m =
      match m.st.verifyRunoutCountSelection cfg count i with
      | .error e => m.raise e
      | .ok p =>
        m.cont { m.st with
            runoutSelectors := m.st.runoutSelectors.set p false
            runoutCount := consensusStep m.st.runoutCount count }
          [.updShow (some (.runoutCountSelection p count))] rest := by
  step_at h
  simp only [runoutPlumb]
  cases m.st.verifyRunoutCountSelection cfg count i with
  | error e => rfl
  | ok p =>
    cases count with
    | none => rfl
    | some c =>
      cases m.st.runoutCount with
      | none => rfl
      | some rc =>
        simp only [consensusStep]
        split <;> rfl

/-- `_end_showdown` on street `si`: the first showdown of a hand fixes the run-outs -/
def State.closeShowdown (s : State) (si : Int) : State :=
  if !s.runoutFlag then
    let s := { s with runoutFlag := true }
    match s.runoutCount with
    | some rc => { s with streetReturnIndex := some (si + 1), streetReturnCount := rc - 1 }
    | none => s
  else s

theorem step_endShow_eq {m : M} {rest : List Ctl} (h : m.ctl = .endShow :: rest) :
    step cfg env m =
      if anyB m.st.runoutSelectors || !m.st.showdown.isEmpty then m.raise .assertionError
      else match m.st.streetIndex with
        | none => m.raise .assertionError
        | some si =>
          if (m.st.closeShowdown si).allIn && !(m.st.closeShowdown si).streetIsLast cfg && (m.st.closeShowdown si).liveCount > 1 then
            m.cont (m.st.closeShowdown si) [.beginDeal] rest
          else m.cont (m.st.closeShowdown si) [.beginKill] rest := by
  rw [step_cons h]; rfl

theorem closeShowdown_eq (s : State) (si : Int) :
    s.closeShowdown si = { s with
      runoutFlag := (s.closeShowdown si).runoutFlag, streetReturnIndex := (s.closeShowdown si).streetReturnIndex
      streetReturnCount := (s.closeShowdown si).streetReturnCount } := by
  simp only [State.closeShowdown]
  (repeat' split) <;> rfl

/-- `_end_bet_collection`: after the last street of a run-out the hand goes back to the street the run-outs start
    from, as long as one is left to deal -/
def State.nextRunout (cfg : Config) (s : State) : Except Err State :=
  if s.streetIsLast cfg && s.streetReturnCount != 0 then
    match s.streetReturnIndex with
    | none => .error .assertionError
    | some ri => .ok { s with streetIndex := some (ri - 1), streetReturnCount := s.streetReturnCount - 1 }
  else .ok s

theorem step_endCollect_eq {m : M} {rest : List Ctl} (h : m.ctl = .endCollect :: rest) :
    step cfg env m =
      if m.st.betCollection then m.raise .assertionError
      else match m.st.nextRunout cfg with
        | .error e => m.raise e
        | .ok s =>
          if s.liveCount == 1 then m.cont s [.beginPush] rest
          else if (s.street cfg).isNone then m.cont s [.beginBlind] rest
          else if s.streetIsLast cfg || s.allIn then m.cont s [.beginShow] rest
          else m.cont s [.beginDeal] rest := by
  rw [step_cons h]; rfl

theorem nextRunout_ok_eq {s s' : State} (h : s.nextRunout cfg = .ok s') :
    s' = { s with streetIndex := s'.streetIndex, streetReturnCount := s'.streetReturnCount } := by
  unfold State.nextRunout at h
  (repeat' split at h) <;> cases h <;> rfl

/-- `_begin_dealing`: on to the next street -/
def State.nextStreet (s : State) : State :=
  { s with streetIndex := match s.streetIndex with
    | none => some 0
    | some i => some (i + 1) }

theorem step_beginDeal_eq {m : M} {rest : List Ctl} (h : m.ctl = .beginDeal :: rest) :
    step cfg env m =
      if m.st.cardBurning || m.st.anyHoleDealing || m.st.anyBoardDealing || anyB m.st.standingPat then
        m.raise .assertionError
      else
        match m.st.nextStreet.streetIndex, m.st.nextStreet.street cfg with
        | some si, some st =>
          if !(0 ≤ si && si < cfg.streets.length) then m.raise .assertionError
          else if !((dealSetup cfg env m.st.nextStreet st).anyHoleDealing ||
              (dealSetup cfg env m.st.nextStreet st).anyBoardDealing ||
              anyB (dealSetup cfg env m.st.nextStreet st).standingPat) then m.raise .assertionError
          else m.cont (dealSetup cfg env m.st.nextStreet st) [.updDeal none] rest
        | _, _ => m.raise .assertionError := by
  rw [step_cons h]; rfl

/-- one discard: the card leaves the hand at its first position, its facing goes to the end of
    the player's queue (= the facing of the replacement), and it lands in the street's discards -/
def discardOne (p si : Nat) (s : State) (c : Card) : State :=
  let own := s.holeOf p
  let idx := own.idxOf c
  { s with
    holeDealing := s.holeDealing.set p (s.holeDealing.getD p [] ++ [getB (s.holeStatusesOf p) idx])
    hole := s.hole.set p (own.eraseIdx idx)
    holeStatuses := s.holeStatuses.set p ((s.holeStatusesOf p).eraseIdx idx)
    discarded := s.discarded.set si (s.discarded.getD si [] ++ [c]) }

theorem step_opDraw_eq {m : M} {cards : List Card} {rest : List Ctl} (h : m.ctl = .opDraw cards :: rest) :
    step cfg env m =
      match m.st.verifyStandingPat cards, m.st.standerPatIndex, m.st.streetIndex with
      | .error e, _, _ => m.raise e
      | .ok cards, some p, some si =>
        m.cont (cards.foldl (discardOne p si.toNat) { m.st with standingPat := m.st.standingPat.set p false })
          [.updDeal (some (.standingPatOrDiscarding p cards))] rest
      | .ok _, _, _ => m.raise .assertionError := by
  rw [step_cons h]; rfl

theorem discardOne_holeOf (p si : Nat) (s : State) (c : Card) :
    (discardOne p si s c).holeOf p = (s.holeOf p).erase c := by
  unfold discardOne State.holeOf
  rw [List.getD_eq_getElem?_getD, List.getElem?_set, if_pos rfl, List.erase_eq_eraseIdx_of_idxOf rfl]
  split
  · rfl
  · rw [List.getD_eq_getElem?_getD, List.getElem?_eq_none (Nat.le_of_not_lt ‹_›)]
    rfl

theorem foldl_discard {P : State → Prop} {p k : Nat}
    (hP : ∀ s c, P s → c ∈ s.holeOf p → P (discardOne p k s c)) :
    ∀ (cards : List Card) (s : State), P s → (∀ c ∈ cards, cards.count c ≤ (s.holeOf p).count c) →
      P (cards.foldl (discardOne p k) s)
  | [], _, h, _ => h
  | c :: cs, s, h, hcnt => by
    obtain ⟨hc, hcs⟩ := count_le_cons hcnt
    exact foldl_discard hP cs _ (hP s c h hc) (by rwa [discardOne_holeOf])

theorem step_opDraw_cases {m : M} {cards : List Card} {rest : List Ctl} (hctl : m.ctl = .opDraw cards :: rest) :
    (step cfg env m).st = m.st ∨ ∃ p si, m.st.streetIndex = some si ∧
      (∀ c ∈ cards, cards.count c ≤ (m.st.holeOf p).count c) ∧
      (step cfg env m).st =
        cards.foldl (discardOne p si.toNat) { m.st with standingPat := m.st.standingPat.set p false } := by
  rw [step_opDraw_eq hctl]
  split
  · exact Or.inl rfl
  · rename_i out p si hv hp hsi
    obtain ⟨rfl, p', hp', hcount⟩ := verifyStandingPat_spec hv
    cases hp.symm.trans hp'
    exact Or.inr ⟨p, si, hsi, hcount, rfl⟩
  · exact Or.inl rfl

/-- `deal_board` before the cards are laid out: they leave the piles, and the first board owed `bdc` cards is owed that
    many fewer -/
def State.takeBoardCards (env : Env) (s : State) (cards : List Card) (bdc : Int) : State :=
  let s' := s.consumeCards env cards
  { s' with boardDealing := s'.boardDealing.set (s'.boardDealing.idxOf bdc) (bdc - cards.length) }

/-- the loop of `deal_board`: each card is appended to a row of the table of boards (a new row is
    opened when the index is one past the end) -/
def boardStep (acc : Except Err (List (List Card) × Int)) (c : Card) : Except Err (List (List Card) × Int) :=
  match acc with
  | .error e => .error e
  | .ok (b, idx) =>
    if idx < 0 then .error .indexError
    else if idx > b.length then .error .assertionError
    else
      let b := if idx == b.length then b ++ [[]] else b
      .ok (b.set idx.toNat (b.getD idx.toNat [] ++ [c]), idx + 1)

/-- the cards go to consecutive rows, from the first row of the street (past the rows of the earlier streets) plus
    what the street has put down already -/
theorem step_opDealBoard_eq {m : M} {arg : CardsArg} {rest : List Ctl} (h : m.ctl = .opDealBoard arg :: rest) :
    step cfg env m =
      match m.st.verifyBoardDealing cfg env arg with
      | .error e => m.raise e
      | .ok v =>
        match m.st.boardDealingCount, m.st.streetIndex, m.st.street cfg with
        | some bdc, some si, some st =>
          match v.val.foldl boardStep (.ok ((m.st.takeBoardCards env v.val bdc).board,
              sumI ((cfg.streets.take si.toNat).map (·.board)) + max (st.board - bdc) 0)) with
          | .error e => { m with st := m.st.takeBoardCards env v.val bdc, ctl := [], err := some e }
          | .ok (b, _) =>
            { m.cont { m.st.takeBoardCards env v.val bdc with board := b } [.updDeal (some (.boardDealing v.val))] rest with
              warned := m.warned || v.warned }
        | _, _, _ => m.raise .assertionError := by
  rw [step_cons h]; rfl

theorem takeBoardCards_eq (s : State) (cards : List Card) (bdc : Int) :
    s.takeBoardCards env cards bdc = { s with
      deck := (s.consumeCards env cards).deck, burned := (s.consumeCards env cards).burned
      mucked := (s.consumeCards env cards).mucked, discarded := (s.consumeCards env cards).discarded
      boardDealing := s.boardDealing.set (s.boardDealing.idxOf bdc) (bdc - cards.length) } := by
  unfold State.takeBoardCards
  rw [consumeCards_eq]

theorem step_restore {m : M} {f : Ctl} {rest : List Ctl} (h : m.ctl = f :: rest) :
    f.restore m.st (step cfg env m).st = m.st := by
  cases f
  case updAnte | updCollect | updBlind | updDeal | updBet | updShow | updKill | updPush | updPull =>
    -- whichever frame comes next, the state is the one with the record appended
    step_at h; simp only [apply_ite M.st, M.cont, ite_self]; rw [log_eq]; rfl
  case opBurn | opDealHole =>
    -- `cont_st` first, here and below: `rfl` alone unfolds `M.cont` around the new state once for every field of `State`
    step_at h; (repeat' split) <;> first | rfl | (rw [cont_st, consumeCards_eq]; rfl)
  case opDealBoard =>
    rw [step_opDealBoard_eq h]; (repeat' split) <;> first | rfl | (rw [takeBoardCards_eq]; rfl)
  case opDraw =>
    rw [step_opDraw_eq h]
    split
    · rfl
    · exact foldl_inv ((Ctl.opDraw _).restore m.st) (discardOne _ _) (fun _ _ => rfl) _ _
    · rfl
  case opFold | opKill =>
    step_at h; (repeat' split) <;> first | rfl | (rename_i hm; rw [cont_st, muckHoleCards_ok hm]; rfl)
  case opShow a i =>
    refine step_show (P := fun s' => (Ctl.opShow a i).restore m.st s' = m.st) h rfl
      (fun _ => by rw [offQueue_eq]; rfl) fun _ _ hs => ?_
    rcases showOrMuck_ok hs with ⟨_, e⟩ | ⟨_, s₁, hm, e⟩
    · rw [e, offQueue_eq]; rfl
    · rw [e, muckHoleCards_ok hm, offQueue_eq]; rfl
  case opCollect =>
    step_at h; (repeat' split) <;> first | rfl | (rw [cont_st, collectBets_eq]; rfl)
  case beginDeal =>
    rw [step_beginDeal_eq h]
    simp only [apply_ite M.st, M.cont, M.raise]
    (repeat' split) <;> first | rfl | (rw [dealSetup_eq]; rfl)
  case beginPush =>
    step_at h
    (repeat' split) <;> first
      | rfl
      | (rename_i hm; rw [freezePots_ok_eq hm]; rfl)
      | (rename_i hm; rw [freezePots_error_eq hm]; rfl)
  case opPush =>
    step_at h
    (repeat' split) <;> first
      | rfl
      | (rename_i hm; rw [pushChips_ok_eq hm]; rfl)
      | (rename_i hm; rw [pushChips_error_eq hm]; rfl)
  case endCollect =>
    rw [step_endCollect_eq h]
    split
    · rfl
    · split
      · rfl
      · rename_i hs
        (repeat' split) <;> rw [cont_st, nextRunout_ok_eq hs] <;> rfl
  case endBet =>
    rw [step_endBet_eq h]
    split
    · rfl
    · rw [cont_st, afterRound_eq]; rfl
  case opCbr =>
    rw [step_opCbr_eq h]
    split
    · rfl
    · split
      · rfl
      · dsimp only
        split
        · rfl
        · rw [cont_st, bookRaise_eq]; rfl
  case beginShow =>
    rw [step_beginShow_eq h]
    (repeat' split) <;> first | rfl | (rw [cont_st, openShowdown_eq]; rfl)
  case endShow =>
    rw [step_endShow_eq h]
    (repeat' split) <;> first | rfl | (rw [cont_st, closeShowdown_eq]; rfl)
  case opRunout =>
    rw [step_opRunout_eq h]; split <;> rfl
  -- the state goes into the branches first: many arms end in `m.cont s _ _` for the same `s` on every path
  all_goals (step_at h; try simp only [apply_ite M.st, M.cont, M.raise, ite_self]; (repeat' split) <;> rfl)

theorem step_view {α : Type} (v : State → α) {m : M} {f : Ctl} {rest : List Ctl} (h : m.ctl = f :: rest)
    (hv : ∀ s s', v (f.restore s s') = v s') : v (step cfg env m).st = v m.st :=
  (hv _ _).symm.trans (congrArg v (step_restore h))

/-- `fold` and `kill_hand` are a muck after some bookkeeping (the actor leaves the queue, resp. the kill flag goes
    down): a property of the state that does not look at the bookkeeping and survives a muck survives both, whether
    they are refused, stop half-way or go through.  (`h₁` offers the length of the kill flags because `FlagsLen`, one of
    the properties this serves, does look at that.) -/
theorem step_muck {P : State → Prop} {m : M} {f : Ctl} {rest : List Ctl} (h : m.ctl = f :: rest)
    (hf : f = .opFold ∨ ∃ i, f = .opKill i)
    (h₁ : ∀ a b k, k.length = m.st.handKilling.length → P { m.st with actors := a, acted := b, handKilling := k })
    (hm : ∀ {s s' : State} {p : Nat}, P s → s.muckHoleCards p = .ok s' → P s') : P (step cfg env m).st := by
  have h₀ : P m.st := h₁ m.st.actors m.st.acted m.st.handKilling rfl
  rcases hf with rfl | ⟨i, rfl⟩
  · step_at h
    split
    · exact h₀
    · split
      · exact h₀
      · split
        · exact h₁ _ _ m.st.handKilling rfl
        · split
          · exact h₁ _ _ m.st.handKilling rfl
          · exact hm (h₁ _ _ m.st.handKilling rfl) ‹_›
  · step_at h
    split
    · exact h₀
    · split
      · exact h₁ m.st.actors m.st.acted _ (List.length_set ..)
      · exact hm (h₁ m.st.actors m.st.acted _ (List.length_set ..)) ‹_›

end PK
