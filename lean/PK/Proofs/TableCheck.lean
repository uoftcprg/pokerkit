/-
  PK.Proofs.TableCheck — two Boolean checks of a finished lookup table against a family of hand
  signatures: `tableOk` (the table orders the family exactly as a specification key does, and labels
  it by category) and `absentOk` (the table has no entry for any signature of the family).  The
  kernel evaluates them (`PK.Properties.C04Kernel*`, `C13Kernel*`); `PK.Proofs.TableSound` says what
  `check = true` means.  Definitions only: the kernel modules import this file and nothing of the proofs.
-/
import PK.Spec.Ranking
namespace PK.TableCheck
open PK.Spec

/-- what the table says about one signature, next to what the rules say: (index, label, key) -/
abbrev Row := Nat × Nat × List Nat

abbrev Sig := List Rank × Bool

def rowOf (t : Lookup) (spec : List Rank → Bool → List Nat) (s : Sig) : Option Row :=
  match hashRanks s.1 with
  | none => none
  | some h =>
    match t.get? (h, s.2) with
    | none => none
    | some e => some (e.index, e.label, spec s.1 s.2)

def rowsOf (t : Lookup) (spec : List Rank → Bool → List Nat) : List Sig → Option (List Row)
  | [] => some []
  | s :: ss =>
    match rowOf t spec s, rowsOf t spec ss with
    | some r, some rs => some (r :: rs)
    | _, _ => none

/-! merge sort on the table index (any procedure would do: only membership is needed of it).  Structural on fuel, so
    that the kernel can run it: `f` bounds the steps of one merge (the rows there are), `r` the rounds (64 rounds sort
    2^64 rows); out of fuel the lists are concatenated, unsorted rows fail `chainOk`, and the check stays sound -/
def merge : Nat → List Row → List Row → List Row
  | 0, a, b => a ++ b
  | _ + 1, [], b => b
  | _ + 1, a, [] => a
  | f + 1, x :: a, y :: b => if x.1 ≤ y.1 then x :: merge f a (y :: b) else y :: merge f (x :: a) b

def mergePairs (f : Nat) : List (List Row) → List (List Row)
  | a :: b :: rest => merge f a b :: mergePairs f rest
  | l => l

def mergeAll : Nat → Nat → List (List Row) → List Row
  | 0, _, ls => ls.flatten
  | _ + 1, _, [] => []
  | _ + 1, _, [l] => l
  | r + 1, f, ls => mergeAll r f (mergePairs f ls)

def msort (rows : List Row) : List Row := mergeAll 64 (rows.length + 1) (rows.map fun r => [r])

/-- two rows are in order: same index and same key, or smaller index and smaller key -/
def inOrder (a b : Row) : Bool :=
  if a.1 = b.1 then a.2.2 == b.2.2 else if a.1 < b.1 then lexLt a.2.2 b.2.2 else false

def chainOk : List Row → Bool
  | a :: b :: rest => if inOrder a b then chainOk (b :: rest) else false
  | _ => true

/-- the label is the one the key's category carries -/
def labelsOk (lab : List Nat → Nat) : List Row → Bool
  | [] => true
  | r :: rs => if r.2.1 = lab r.2.2 then labelsOk lab rs else false

def tableOk (t : Lookup) (spec : List Rank → Bool → List Nat) (lab : List Nat → Nat) (sigs : List Sig) : Bool :=
  match rowsOf t spec sigs with
  | none => false
  | some rows => if labelsOk lab rows then chainOk (msort rows) else false

/-- none of these signatures has an entry -/
def absentOk (t : Lookup) : List Sig → Bool
  | [] => true
  | s :: ss =>
    match hashRanks s.1 with
    | none => false
    | some h => if (t.get? (h, s.2)).isNone then absentOk t ss else false

end PK.TableCheck
