/-
  PK.Proofs.TableLift — from signatures to cards: the enumeration of signatures is complete for the
  card lists a hand constructor can receive, the specifications look at the multiset of ranks only,
  and a table that passes `PK.TableCheck.tableOk` / `absentOk` on a family decides `Hand(cards)` for
  every card list whose signature `(sortedRanks cs, areSuited cs)` is in the family.
-/
import PK.Proofs.TableSound
import PK.Properties.C04
namespace PK
open PK.Spec PK.TableCheck

theorem countEq_perm (v : Nat) {a b : List Nat} (h : a.Perm b) : countEq v a = countEq v b := by
  induction h with
  | nil => rfl
  | cons x _ ih => simp only [countEq, ih]
  | swap x y l => simp only [countEq]; split <;> split <;> rfl
  | trans _ _ ih1 ih2 => rw [ih1, ih2]

theorem groupsFrom_perm {a b : List Nat} (h : a.Perm b) : ∀ n, groupsFrom a n = groupsFrom b n
  | 0 => rfl
  | n + 1 => by
    unfold groupsFrom
    rw [countEq_perm (n + 1) h, groupsFrom_perm h n]

theorem standardKey_perm {a b : List Rank} (h : a.Perm b) (s : Bool) :
    standardKey a s = standardKey b s := by
  unfold standardKey
  rw [groupsFrom_perm (h.map valueHigh) 14]

theorem shortDeckKey_perm {a b : List Rank} (h : a.Perm b) (s : Bool) :
    shortDeckKey a s = shortDeckKey b s := by
  unfold shortDeckKey
  rw [groupsFrom_perm (h.map valueHigh) 14]

theorem regularLowKey_perm {a b : List Rank} (h : a.Perm b) (s : Bool) :
    regularLowKey a s = regularLowKey b s := by
  unfold regularLowKey
  rw [groupsFrom_perm (h.map valueLow) 13]

theorem eightOrBetterKey_perm {a b : List Rank} (h : a.Perm b) (s : Bool) :
    eightOrBetterKey a s = eightOrBetterKey b s := by
  unfold eightOrBetterKey
  rw [groupsFrom_perm (h.map valueLow) 13]

theorem badugiKey_perm (value : Rank → Nat) {a b : List Rank} (h : a.Perm b) (s : Bool) :
    badugiKey value a s = badugiKey value b s := by
  unfold badugiKey
  rw [groupsFrom_perm (h.map value) 14, h.length_eq]

theorem exposedKey_perm (value : Rank → Nat) {a b : List Rank} (h : a.Perm b) (s : Bool) :
    exposedKey value a s = exposedKey value b s := by
  unfold exposedKey
  rw [groupsFrom_perm (h.map value) 14, h.length_eq]

theorem mem_multisets : ∀ (w lo k : Nat) (l : List Nat), l.length = k → l.Pairwise (· ≤ ·) →
    (∀ x ∈ l, lo ≤ x ∧ x < lo + w) → l ∈ multisets w lo k
  | 0, lo, k, l, hk, _, hb => by
    cases l with
    | nil => subst hk; simp [multisets]
    | cons x xs => have := hb x List.mem_cons_self; omega
  | w + 1, lo, k, l, hk, hs, hb => by
    unfold multisets
    induction k generalizing l with
    | zero => simp [List.eq_nil_of_length_eq_zero hk, msStep]
    | succ k ih =>
      obtain _ | ⟨x, xs⟩ := l
      · cases hk
      have ⟨hx, hxs⟩ := List.pairwise_cons.1 hs
      rw [msStep, List.mem_append]
      by_cases hxl : x = lo
      · exact .inl (List.mem_map.2 ⟨xs, ih xs (by simpa using hk) hxs fun y hy => hb y (List.mem_cons_of_mem _ hy),
          by rw [hxl]⟩)
      · refine .inr (mem_multisets w (lo + 1) (k + 1) (x :: xs) hk hs fun y hy => ?_)
        have := hb x List.mem_cons_self
        have := hb y hy
        rcases List.mem_cons.1 hy with rfl | hy'
        · omega
        · have := hx y hy'
          omega

theorem allSame_eq (l : List Nat) (h : allSame l = true) : ∀ x ∈ l, ∀ y ∈ l, x = y :=
  have hp := pairwise_of_chain (R := (· = ·)) (fun _ _ _ => Eq.trans) (f := allSame) (fun _ _ _ => rfl) l h
  fun _ hx _ hy => List.Pairwise.forall_of_forall_of_flip (fun _ _ => rfl) hp (hp.imp Eq.symm) hx hy

theorem strictlyIncreasing_iff_pairwise : ∀ l : List Nat, strictlyIncreasing l = true ↔ l.Pairwise (· < ·)
  | [] => by simp [strictlyIncreasing]
  | [_] => by simp [strictlyIncreasing]
  | a :: b :: l => by
    refine ⟨pairwise_of_chain (R := (· < ·)) (fun _ _ _ => Nat.lt_trans) (f := strictlyIncreasing)
      (fun _ _ _ => rfl) _, fun h => ?_⟩
    have ⟨h1, h2⟩ := List.pairwise_cons.1 h
    simp [strictlyIncreasing, h1 b List.mem_cons_self, (strictlyIncreasing_iff_pairwise (b :: l)).2 h2]

theorem strictlyIncreasing_iff {l : List Nat} (hs : l.Pairwise (· ≤ ·)) :
    strictlyIncreasing l = true ↔ l.Nodup :=
  (strictlyIncreasing_iff_pairwise l).trans
    ⟨fun h => h.imp Nat.ne_of_lt, fun h => (hs.and h).imp fun ⟨h1, h2⟩ => Nat.lt_of_le_of_ne h1 h2⟩

/-- the ranks of a card list in non-decreasing order: the form in which the families list a hand -/
def sortedRanks (cs : List Card) : List Rank := (cs.map (·.rank)).mergeSort (· ≤ ·)

theorem sortedRanks_perm (cs : List Card) : (sortedRanks cs).Perm (cs.map (·.rank)) := List.mergeSort_perm _ _

theorem sortedRanks_sorted (cs : List Card) : (sortedRanks cs).Pairwise (· ≤ ·) :=
  (List.pairwise_mergeSort (le := fun a b : Nat => a ≤ b) (by simpa using fun _ _ _ => Nat.le_trans)
    (by simpa using Nat.le_total) (cs.map Card.rank)).imp of_decide_eq_true

theorem sortedRanks_mem {cs : List Card} (hk : ∀ c ∈ cs, c.rank < 13) :
    sortedRanks cs ∈ multisets 13 0 cs.length := by
  refine mem_multisets 13 0 _ _ ?_ (sortedRanks_sorted cs) fun x hx => ?_
  · rw [(sortedRanks_perm cs).length_eq, List.length_map]
  · obtain ⟨c, hc, rfl⟩ := List.mem_map.1 ((sortedRanks_perm cs).mem_iff.1 hx)
    exact ⟨Nat.zero_le _, by simpa using hk c hc⟩

theorem strictlyIncreasing_sortedRanks (cs : List Card) :
    strictlyIncreasing (sortedRanks cs) = true ↔ (cs.map (·.rank)).Nodup :=
  (strictlyIncreasing_iff (sortedRanks_sorted cs)).trans (sortedRanks_perm cs).nodup_iff

theorem all_sortedRanks {p : Rank → Bool} (cs : List Card) :
    (sortedRanks cs).all p = true ↔ ∀ c ∈ cs, p c.rank = true := by
  rw [(sortedRanks_perm cs).all_eq]
  simp [List.all_eq_true]

structure FiveCards (cs : List Card) : Prop where
  len : cs.length = 5
  nodup : cs.Nodup
  known : ∀ c ∈ cs, c.rank < 13 ∧ c.suit < 4

theorem all_known_of_lt {cs : List Card} (h : ∀ c ∈ cs, c.rank < 13 ∧ c.suit < 4) : cs.all Card.known = true := by
  rw [List.all_eq_true]
  intro c hc
  obtain ⟨h1, h2⟩ := h c hc
  simp [Card.known, Card.isUnknown, Rank.unknown, Suit.unknown, Nat.ne_of_lt h1, Nat.ne_of_lt h2]

theorem FiveCards.allKnown {cs : List Card} (h : FiveCards cs) : cs.all Card.known = true :=
  all_known_of_lt h.known

theorem card_ext {c d : Card} (h1 : c.rank = d.rank) (h2 : c.suit = d.suit) : c = d := by
  cases c; cases d; simp_all

/-- pigeonhole on the four suits -/
theorem not_five_of_a_kind {cs : List Card} (h : FiveCards cs)
    (hall : ∀ x ∈ cs.map (·.rank), ∀ y ∈ cs.map (·.rank), x = y) : False := by
  have hnd : (cs.map (·.suit)).Nodup := List.pairwise_map.2 <| h.nodup.imp_of_mem fun hc hd hne hs =>
    hne (card_ext (hall _ (List.mem_map_of_mem hc) _ (List.mem_map_of_mem hd)) hs)
  have hsub : cs.map (·.suit) ⊆ List.range 4 := by
    intro s hs
    obtain ⟨c, hc, rfl⟩ := List.mem_map.1 hs
    exact List.mem_range.2 (h.known c hc).2
  have := hnd.length_le_of_subset hsub
  simp [h.len] at this

theorem suited_ranks_nodup {cs : List Card} (hn : cs.Nodup) (hs : areSuited cs = true) :
    (cs.map (·.rank)).Nodup := by
  have hone : ∀ c ∈ cs, ∀ d ∈ cs, c.suit = d.suit := by
    intro c hc d hd
    have hle : (dedup (cs.map (·.suit))).length ≤ 1 := by simpa [areSuited] using hs
    have hc' := (mem_dedup _ _).2 (List.mem_map_of_mem (f := (·.suit)) hc)
    have hd' := (mem_dedup _ _).2 (List.mem_map_of_mem (f := (·.suit)) hd)
    generalize dedup (cs.map (·.suit)) = dl at hle hc' hd'
    match dl, hle, hc', hd' with
    | [x], _, hc', hd' => rw [List.mem_singleton.1 hc', List.mem_singleton.1 hd']
  exact List.pairwise_map.2 <| hn.imp_of_mem fun hc hd hne hr => hne (card_ext hr (hone _ hc _ hd))

theorem signature_mem {cs : List Card} (h : FiveCards cs) : (sortedRanks cs, areSuited cs) ∈ signatures5 := by
  have hperm := sortedRanks_perm cs
  refine List.mem_flatMap.2 ⟨_, h.len ▸ sortedRanks_mem fun c hc => (h.known c hc).1, ?_⟩
  cases hsu : areSuited cs with
  | false =>
    have : allSame (sortedRanks cs) = false := by
      rw [← Bool.not_eq_true]
      exact fun hall => not_five_of_a_kind h fun x hx y hy =>
        allSame_eq _ hall x (hperm.mem_iff.2 hx) y (hperm.mem_iff.2 hy)
    simp [this]
  | true =>
    simp [(strictlyIncreasing_sortedRanks cs).2 (suited_ranks_nodup h.nodup hsu)]

theorem getKey_of {l : LookupId} {cs : List Card} {rs : List Rank} {k : Nat}
    (hrb : l.rainbow = false ∨ areRainbow cs = true)
    (hperm : rs.Perm (cs.map (·.rank))) (hk : hashRanks rs = some k) :
    getKey l cs = .ok (k, areSuited cs) := by
  have h2 : (l.rainbow && !areRainbow cs) = false := by
    rcases hrb with h | h <;> simp [h]
  simp [getKey, ← hashRanks_perm hperm, hk, h2]

/-- acceptance and order as `get_entry_or_none` reports them (the opening lookups are consulted through it).  The
    hypotheses on `a`, and likewise on `b`: `hra`, the lookup is not restricted to rainbow hands (`.inl`) or `a` is one
    (`.inr`); `ra`, the ranks of `a` as the family lists them, sorted; `hma`, the signature of `a` is in the family
    that was checked; `hsa`, the specification does not tell `ra` from the ranks in the order of the cards. -/
theorem entry_of_check (T : Tables) (l : LookupId) (t : Lookup) (hT : T.tbl l = t)
    (spec : List Rank → Bool → List Nat) (lab : List Nat → Nat) (sigs : List Sig)
    (hok : tableOk t spec lab sigs = true) (a b : List Card)
    (hra : l.rainbow = false ∨ areRainbow a = true) (hrb : l.rainbow = false ∨ areRainbow b = true)
    (ra : List Rank) (hpa : ra.Perm (a.map (·.rank))) (hma : (ra, areSuited a) ∈ sigs)
    (hsa : spec ra (areSuited a) = spec (a.map (·.rank)) (areSuited a))
    (rb : List Rank) (hpb : rb.Perm (b.map (·.rank))) (hmb : (rb, areSuited b) ∈ sigs)
    (hsb : spec rb (areSuited b) = spec (b.map (·.rank)) (areSuited b)) :
    ∃ x y, getEntryOrNone T l a = .ok (some x) ∧ getEntryOrNone T l b = .ok (some y) ∧
      x.label = lab (spec (a.map (·.rank)) (areSuited a)) ∧
      (x.index < y.index ↔
        lexLt (spec (a.map (·.rank)) (areSuited a)) (spec (b.map (·.rank)) (areSuited b)) = true) ∧
      (x.index = y.index ↔
        spec (a.map (·.rank)) (areSuited a) = spec (b.map (·.rank)) (areSuited b)) := by
  obtain ⟨k1, k2, e1, e2, hk1, hk2, he1, he2, h⟩ :=
    tableOk_sound _ _ _ _ hok (ra, areSuited a) hma (rb, areSuited b) hmb
  simp only [hsa, hsb] at h
  refine ⟨e1, e2, ?_, ?_, h⟩
  · simp [getEntryOrNone, getKey_of hra hpa hk1, hT, he1]
  · simp [getEntryOrNone, getKey_of hrb hpb hk2, hT, he2]

theorem mkHand_of_entry {T : Tables} {ht : HandType} {cs : List Card} {e : Entry}
    (h : getEntryOrNone T ht.lookup cs = .ok (some e)) (hk : cs.all Card.known = true) :
    mkHand T ht cs = .ok ⟨cs, e⟩ := by
  rw [mkHand_eq]
  unfold getEntryOrNone at h
  split at h
  · cases h
  · simp [*, Except.ok.inj h]

/-- `entry_of_check` for `Hand(cards)` of a hand type `ht` whose lookup is `l`: the same hypotheses, and no card is
    unknown (`hka`, `hkb`) -/
theorem accept_of_check (T : Tables) (l : LookupId) (t : Lookup) (hT : T.tbl l = t)
    (spec : List Rank → Bool → List Nat) (lab : List Nat → Nat) (sigs : List Sig)
    (hok : tableOk t spec lab sigs = true)
    (ht : HandType) (hl : ht.lookup = l) (a b : List Card)
    (hka : a.all Card.known = true) (hkb : b.all Card.known = true)
    (hra : l.rainbow = false ∨ areRainbow a = true) (hrb : l.rainbow = false ∨ areRainbow b = true)
    (ra : List Rank) (hpa : ra.Perm (a.map (·.rank))) (hma : (ra, areSuited a) ∈ sigs)
    (hsa : spec ra (areSuited a) = spec (a.map (·.rank)) (areSuited a))
    (rb : List Rank) (hpb : rb.Perm (b.map (·.rank))) (hmb : (rb, areSuited b) ∈ sigs)
    (hsb : spec rb (areSuited b) = spec (b.map (·.rank)) (areSuited b)) :
    ∃ x y, mkHand T ht a = .ok x ∧ mkHand T ht b = .ok y ∧
      x.entry.label = lab (spec (a.map (·.rank)) (areSuited a)) ∧
      (x.entry.index < y.entry.index ↔
        lexLt (spec (a.map (·.rank)) (areSuited a)) (spec (b.map (·.rank)) (areSuited b)) = true) ∧
      (x.entry.index = y.entry.index ↔
        spec (a.map (·.rank)) (areSuited a) = spec (b.map (·.rank)) (areSuited b)) := by
  subst hl
  obtain ⟨x, y, hx, hy, h⟩ :=
    entry_of_check T _ t hT spec lab sigs hok a b hra hrb ra hpa hma hsa rb hpb hmb hsb
  exact ⟨⟨a, x⟩, ⟨b, y⟩, mkHand_of_entry hx hka, mkHand_of_entry hy hkb, h⟩

theorem reject_of_check (T : Tables) (l : LookupId) (t : Lookup) (hT : T.tbl l = t)
    (other : List Sig) (habs : absentOk t other = true)
    (ht : HandType) (hl : ht.lookup = l) (a : List Card)
    (ra : List Rank) (hpa : ra.Perm (a.map (·.rank))) (hma : (ra, areSuited a) ∈ other) :
    mkHand T ht a = .error .valueError := by
  obtain ⟨k, hk, hnone⟩ :=
    absentOk_sound t other habs _ hma
  cases hr : (l.rainbow && !areRainbow a) <;>
    simp [mkHand_eq, hl, getKey, hr, ← hashRanks_perm hpa, hk, hT, hnone]

theorem reject_not_rainbow (T : Tables) (ht : HandType) (a : List Card)
    (h1 : ht.lookup.rainbow = true) (h2 : areRainbow a = false) :
    mkHand T ht a = .error .valueError := by
  simp [mkHand_eq, getKey, h1, h2]

structure UpCards (cs : List Card) : Prop where
  pos : 1 ≤ cs.length
  le4 : cs.length ≤ 4
  nodup : cs.Nodup
  known : ∀ c ∈ cs, c.rank < 13 ∧ c.suit < 4

theorem up_sig {cs : List Card} (h : UpCards cs) :
    (sortedRanks cs, areSuited cs) ∈ upSigs := by
  have hmem := sortedRanks_mem fun c hc => (h.known c hc).1
  have hup : ∀ k, cs.length = k → (sortedRanks cs, areSuited cs) ∈ signaturesUp k := by
    intro k hk
    refine List.mem_flatMap.2 ⟨_, hk ▸ hmem, ?_⟩
    cases hsu : areSuited cs with
    | false => exact List.mem_cons_self
    | true => simp [(strictlyIncreasing_sortedRanks cs).2 (suited_ranks_nodup h.nodup hsu)]
  have h1 := h.pos
  have h4 := h.le4
  unfold upSigs
  simp only [List.mem_append]
  rcases (by omega : cs.length = 1 ∨ cs.length = 2 ∨ cs.length = 3 ∨ cs.length = 4) with e | e | e | e
  · have hsu : areSuited cs = true := by
      match cs, e with
      | [c], _ => simp [areSuited, dedup]
    exact .inl (.inl (.inl (List.mem_map.2 ⟨_, e ▸ hmem, by rw [hsu]; rfl⟩)))
  · exact .inl (.inl (.inr (hup 2 e)))
  · exact .inl (.inr (hup 3 e))
  · exact .inr (hup 4 e)

end PK
