/-
  PK.Proofs.TableSound — what the checks of `PK.Proofs.TableCheck` mean: from `tableOk … = true` /
  `absentOk … = true` (which the kernel evaluates) to statements about any two signatures of the family.
-/
import PK.Proofs.TableCheck
namespace PK.TableCheck
open PK.Spec

theorem absentOk_sound (t : Lookup) : ∀ (sigs : List Sig), absentOk t sigs = true →
    ∀ s ∈ sigs, ∃ k, hashRanks s.1 = some k ∧ t.get? (k, s.2) = none
  | [], _, s, hs => by cases hs
  | s0 :: ss, h, s, hs => by
    unfold absentOk at h
    split at h
    · cases h
    · split at h
      · rcases List.mem_cons.1 hs with rfl | hs'
        · exact ⟨_, ‹_›, by simpa using ‹Option.isNone _ = true›⟩
        · exact absentOk_sound t ss h s hs'
      · cases h

theorem lexLt_iff_lt : ∀ a b : List Nat, lexLt a b = true ↔ a < b
  | [], [] => by simp [lexLt]
  | [], _ :: _ => by simp [lexLt]
  | _ :: _, [] => by simp [lexLt]
  | x :: xs, y :: ys => by
    rw [List.cons_lt_cons_iff, ← lexLt_iff_lt xs ys, lexLt]
    split
    · simp [*]
    · split <;> simp [*]

theorem lexLt_eq_false (a b : List Nat) : lexLt a b = false ↔ b ≤ a := by
  rw [← Bool.not_eq_true, lexLt_iff_lt, List.not_lt]

theorem rowOf_some {t : Lookup} {spec : List Rank → Bool → List Nat} {s : Sig} {r : Row}
    (h : rowOf t spec s = some r) :
    ∃ k e, hashRanks s.1 = some k ∧ t.get? (k, s.2) = some e ∧ r = (e.index, e.label, spec s.1 s.2) := by
  unfold rowOf at h
  split at h
  · cases h
  · split at h
    · cases h
    · exact ⟨_, _, ‹_›, ‹_›, (Option.some.inj h).symm⟩

theorem rowsOf_some {t : Lookup} {spec : List Rank → Bool → List Nat} :
    ∀ {sigs : List Sig} {rows : List Row}, rowsOf t spec sigs = some rows →
      ∀ s ∈ sigs, ∃ r, rowOf t spec s = some r ∧ r ∈ rows
  | [], _, _, s, hs => by cases hs
  | s0 :: ss, rows, h, s, hs => by
    unfold rowsOf at h
    split at h
    · cases h
      rcases List.mem_cons.1 hs with rfl | hs'
      · exact ⟨_, ‹_›, List.mem_cons_self⟩
      · obtain ⟨r, h1, h2⟩ := rowsOf_some ‹_› s hs'
        exact ⟨r, h1, List.mem_cons_of_mem _ h2⟩
    · cases h

/-! Of the merge sort only that it keeps the rows is needed: whether its output is in order is what `chainOk` tests. -/

theorem mem_merge (x : Row) : ∀ (f : Nat) (a b : List Row), x ∈ merge f a b ↔ x ∈ a ∨ x ∈ b
  | 0, a, b => by simp [merge]
  | f + 1, [], b => by simp [merge]
  | f + 1, y :: a, [] => by simp [merge]
  | f + 1, y :: a, z :: b => by
    unfold merge
    split
    · simp only [List.mem_cons, mem_merge x f, or_assoc]
    · simp only [List.mem_cons, mem_merge x f, or_left_comm]

theorem mem_mergePairs (x : Row) (f : Nat) : ∀ ls : List (List Row),
    x ∈ (mergePairs f ls).flatten ↔ x ∈ ls.flatten
  | [] => by simp [mergePairs]
  | [a] => by simp [mergePairs]
  | a :: b :: rest => by
    simp only [mergePairs, List.flatten_cons, List.mem_append, mem_merge, mem_mergePairs x f rest, or_assoc]

theorem mem_mergeAll (x : Row) : ∀ (r f : Nat) (ls : List (List Row)),
    x ∈ mergeAll r f ls ↔ x ∈ ls.flatten
  | 0, f, ls => by simp [mergeAll]
  | r + 1, f, [] => by simp [mergeAll]
  | r + 1, f, [l] => by simp [mergeAll]
  | r + 1, f, a :: b :: rest => by
    unfold mergeAll
    rw [mem_mergeAll x r f, mem_mergePairs]

theorem mem_msort (x : Row) (rows : List Row) : x ∈ msort rows ↔ x ∈ rows := by
  rw [msort, mem_mergeAll, ← List.flatMap_def, List.flatMap_singleton']

/-- `f`: a Boolean test of neighbours (`chainOk`; `allSame` and `strictlyIncreasing` of the specification) -/
theorem pairwise_of_chain {α : Type} {R : α → α → Prop} [DecidableRel R]
    (htrans : ∀ a b c, R a b → R b c → R a c) {f : List α → Bool}
    (hf : ∀ a b l, f (a :: b :: l) = if R a b then f (b :: l) else false) :
    ∀ l, f l = true → l.Pairwise R
  | [], _ => .nil
  | [_], _ => List.pairwise_singleton _ _
  | a :: b :: l, h => by
    rw [hf] at h
    split at h
    · have ih := pairwise_of_chain htrans hf (b :: l) h
      refine .cons (fun y hy => ?_) ih
      rcases List.mem_cons.1 hy with rfl | hy
      · assumption
      · exact htrans a b y ‹_› (List.rel_of_pairwise_cons ih hy)
    · cases h

theorem inOrder_iff (a b : Row) : inOrder a b = true ↔
    a.1 = b.1 ∧ a.2.2 = b.2.2 ∨ a.1 < b.1 ∧ a.2.2 < b.2.2 := by
  unfold inOrder
  split
  · simp [*]
  · split <;> simp [*, lexLt_iff_lt]

theorem inOrder_trans (a b c : Row) (h1 : inOrder a b = true) (h2 : inOrder b c = true) :
    inOrder a c = true := by
  rw [inOrder_iff] at *
  rcases h1 with ⟨i1, k1⟩ | ⟨i1, k1⟩ <;> rcases h2 with ⟨i2, k2⟩ | ⟨i2, k2⟩
  · exact .inl ⟨i1.trans i2, k1.trans k2⟩
  · exact .inr ⟨i1 ▸ i2, k1 ▸ k2⟩
  · exact .inr ⟨i2 ▸ i1, k2 ▸ k1⟩
  · exact .inr ⟨Nat.lt_trans i1 i2, List.lt_trans k1 k2⟩

theorem chainOk_total {l : List Row} (h : chainOk l = true) {x y : Row} (hx : x ∈ l) (hy : y ∈ l) :
    inOrder x y = true ∨ inOrder y x = true := by
  have hp := pairwise_of_chain (R := (inOrder · · = true)) inOrder_trans (f := chainOk) (fun _ _ _ => rfl) l h
  exact List.Pairwise.forall_of_forall_of_flip (R := fun x y => inOrder x y = true ∨ inOrder y x = true)
    (fun x _ => .inl ((inOrder_iff x x).2 (.inl ⟨rfl, rfl⟩))) (hp.imp .inl) (hp.imp .inr) hx hy

/-- each of the three ways two indices can compare comes with the same comparison of the keys, and the
    three exclude one another on either side -/
theorem order_facts {x y : Row} (h : inOrder x y = true ∨ inOrder y x = true) :
    (x.1 < y.1 ↔ lexLt x.2.2 y.2.2 = true) ∧ (x.1 = y.1 ↔ x.2.2 = y.2.2) := by
  simp only [inOrder_iff, lexLt_iff_lt] at *
  rcases h with (⟨i, k⟩ | ⟨i, k⟩) | (⟨i, k⟩ | ⟨i, k⟩)
  · simp [i, k, List.lt_irrefl]
  · exact ⟨iff_of_true i k, iff_of_false (Nat.ne_of_lt i) fun e => List.lt_irrefl _ (e ▸ k)⟩
  · simp [i, k, List.lt_irrefl]
  · exact ⟨iff_of_false (Nat.lt_asymm i) (List.lt_asymm k),
      iff_of_false (Nat.ne_of_gt i) fun e => List.lt_irrefl _ (e ▸ k)⟩

theorem labelsOk_mem (lab : List Nat → Nat) : ∀ (rows : List Row), labelsOk lab rows = true →
    ∀ r ∈ rows, r.2.1 = lab r.2.2
  | [], _, r, hr => by cases hr
  | r0 :: rs, h, r, hr => by
    unfold labelsOk at h
    split at h
    · rcases List.mem_cons.1 hr with rfl | hr'
      · assumption
      · exact labelsOk_mem lab rs h r hr'
    · cases h

theorem tableOk_sound (t : Lookup) (spec : List Rank → Bool → List Nat) (lab : List Nat → Nat)
    (sigs : List Sig) (hok : tableOk t spec lab sigs = true) (s1 : Sig) (h1 : s1 ∈ sigs) (s2 : Sig) (h2 : s2 ∈ sigs) :
    ∃ k1 k2 e1 e2, hashRanks s1.1 = some k1 ∧ hashRanks s2.1 = some k2 ∧
      t.get? (k1, s1.2) = some e1 ∧ t.get? (k2, s2.2) = some e2 ∧
      e1.label = lab (spec s1.1 s1.2) ∧
      (e1.index < e2.index ↔ lexLt (spec s1.1 s1.2) (spec s2.1 s2.2) = true) ∧
      (e1.index = e2.index ↔ spec s1.1 s1.2 = spec s2.1 s2.2) := by
  unfold tableOk at hok
  split at hok
  · cases hok
  · rename_i rows hrows
    split at hok
    · rename_i hl
      obtain ⟨r1, hr1, hm1⟩ := rowsOf_some hrows s1 h1
      obtain ⟨r2, hr2, hm2⟩ := rowsOf_some hrows s2 h2
      have hf := order_facts (chainOk_total hok ((mem_msort r1 rows).2 hm1) ((mem_msort r2 rows).2 hm2))
      have hlab := labelsOk_mem lab rows hl r1 hm1
      obtain ⟨k1, e1, hk1, he1, rfl⟩ := rowOf_some hr1
      obtain ⟨k2, e2, hk2, he2, rfl⟩ := rowOf_some hr2
      exact ⟨k1, k2, e1, e2, hk1, hk2, he1, he2, hlab, hf⟩
    · cases hok

end PK.TableCheck
