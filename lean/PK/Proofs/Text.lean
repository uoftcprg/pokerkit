/-
  PK.Proofs.Text — the two text layers under the codecs: whitespace splitting (`splitWs`, python's
  `str.split()`) word by word, and the decimal digits `renderNat` writes.
-/
import PK.Model.Notation
namespace PK

theorem splitWs_go_acc (cs cur : List Char) (acc : List (List Char)) :
    splitWs.go cs cur acc = acc.reverse ++ splitWs.go cs cur [] := by
  induction cs generalizing cur acc with
  | nil =>
    rw [splitWs.go, splitWs.go]
    split <;> simp
  | cons c cs ih =>
    rw [splitWs.go, splitWs.go]
    split
    · rw [ih, ih _ (ite _ _ _)]
      split <;> simp
    · exact ih _ _

theorem splitWs_go_plain (a : List Char) (h : ∀ ch ∈ a, isPyWhitespace ch = false)
    (rest cur : List Char) (acc : List (List Char)) :
    splitWs.go (a ++ rest) cur acc = splitWs.go rest (a.reverse ++ cur) acc := by
  induction a generalizing cur with
  | nil => rfl
  | cons x a ih =>
    have ⟨hx, ha⟩ := List.forall_mem_cons.1 h
    rw [List.cons_append, splitWs.go, if_neg (by simp [hx]), ih ha, List.reverse_cons, List.append_assoc]
    rfl

theorem splitWs_word (a : List Char) (h : ∀ ch ∈ a, isPyWhitespace ch = false) (c : Char)
    (hc : isPyWhitespace c = true) (rest : List Char) :
    splitWs (a ++ c :: rest) = (if a.isEmpty then [] else [a]) ++ splitWs rest := by
  rw [splitWs, splitWs_go_plain a h, splitWs.go, if_pos hc, splitWs_go_acc]
  split <;> simp_all [splitWs]

theorem splitWs_plain (a : List Char) (h : ∀ ch ∈ a, isPyWhitespace ch = false) :
    splitWs a = if a.isEmpty then [] else [a] := by
  have := splitWs_go_plain a h [] [] []
  rw [List.append_nil] at this
  rw [splitWs, this, splitWs.go]
  split <;> simp_all

theorem splitWs_ws (w : List Char) (h : ∀ ch ∈ w, isPyWhitespace ch = true) (rest : List Char) :
    splitWs (w ++ rest) = splitWs rest := by
  induction w with
  | nil => rfl
  | cons x w ih =>
    have ⟨hx, hw⟩ := List.forall_mem_cons.1 h
    exact (splitWs_word [] nofun x hx _).trans (ih hw)

theorem splitWs_sep (a w b : List Char) (ha : ∀ ch ∈ a, isPyWhitespace ch = false)
    (hw : ∀ ch ∈ w, isPyWhitespace ch = true) (hb : ∀ ch ∈ b, isPyWhitespace ch = false) (hne : w ≠ []) :
    splitWs (a ++ w ++ b) = (if a.isEmpty then [] else [a]) ++ (if b.isEmpty then [] else [b]) := by
  obtain ⟨c, w, rfl⟩ := List.exists_cons_of_ne_nil hne
  have ⟨hc, hw⟩ := List.forall_mem_cons.1 hw
  rw [List.append_assoc, List.cons_append, splitWs_word a ha c hc, splitWs_ws w hw, splitWs_plain b hb]

theorem digit_facts : ∀ d < 10, (('0' ≤ Char.ofNat (48 + d) && Char.ofNat (48 + d) ≤ '9') = true) ∧
    (Char.ofNat (48 + d)).toNat - 48 = d ∧ isPyWhitespace (Char.ofNat (48 + d)) = false := by
  decide

theorem renderNat_ne_nil (n : Nat) : renderNat n ≠ [] := by
  rw [renderNat]
  split <;> simp

theorem renderNat_all {P : Char → Prop} (hP : ∀ d < 10, P (Char.ofNat (48 + d))) (n : Nat) :
    ∀ ch ∈ renderNat n, P ch := by
  induction n using renderNat.induct with
  | case1 n h =>
    rw [renderNat, dif_pos h]
    simpa using hP n h
  | case2 n h ih =>
    rw [renderNat, dif_neg h]
    simpa [or_imp, forall_and] using ⟨ih, hP _ (Nat.mod_lt _ (by omega))⟩

end PK
