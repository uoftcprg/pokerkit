/-
  PK.Proofs.Validate — what `Config.validate` (`State.__post_init__`) checks, read off its `elif`
  chain once; everything that needs a fact about an accepted configuration takes it from
  `Config.valid_of_validate`.
-/
import PK.Proofs.Sorted
import PK.Proofs.Guard
namespace PK

structure Config.Valid (c : Config) : Prop where
  streets : c.streets ≠ []
  street0 : ∀ st0, c.streets[0]? = some st0 → st0.hole.isEmpty = false ∧ c.bringIn < st0.minBet
  antes : ∀ a ∈ c.antes, 0 ≤ a
  bringIn : 0 ≤ c.bringIn
  forced : c.antes.any (· != 0) ∨ c.blinds.any (· != 0) ∨ c.bringIn ≠ 0
  stacks : ∀ s ∈ c.startingStacks, 0 < s
  notBoth : ¬ (c.blinds.any (· != 0) = true ∧ c.bringIn ≠ 0)
  players : 2 ≤ c.n
  boards : 0 < c.startingBoardCount

theorem Config.valid_of_validate {c : Config} (h : c.validate = none) : c.Valid := by
  unfold Config.validate at h
  cases hs : c.streets with
  | nil => rw [hs] at h; cases h
  | cons st0 rest =>
    rw [hs] at h
    -- one conjunct per check of the chain, in its order; the two dropped are `c.n == 0` (the later `c.n < 2` says
    -- more) and the end of the chain
    simp only [ite_some_eq_none] at h
    obtain ⟨hhole, -, hneg, hforced, hstacks, hboth, hmin, hn, hboards, -⟩ := h
    simp only [Bool.or_eq_true, decide_eq_true_eq, not_or, Int.not_lt] at hneg
    exact {
      streets := hs ▸ List.cons_ne_nil _ _
      street0 := fun st hst => by
        rw [hs] at hst
        cases hst
        exact ⟨Bool.eq_false_iff.2 hhole, Int.not_le.1 hmin⟩
      antes := fun a ha => Int.le_trans hneg.1 (minI_le _ a ha)
      bringIn := hneg.2
      forced := by
        simpa only [Bool.and_eq_true, Bool.not_eq_true', beq_iff_eq, Decidable.not_and_iff_not_or_not,
          Bool.not_eq_false, or_assoc] using hforced
      stacks := fun s hm => Int.lt_of_lt_of_le (Int.not_le.1 hstacks) (minI_le _ s hm)
      notBoth := by simpa only [Bool.and_eq_true, bne_iff_ne, ne_eq] using hboth
      players := Nat.not_lt.1 hn
      boards := Int.not_le.1 hboards }

end PK
