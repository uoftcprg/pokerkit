/-
  PK.Proofs.VerifyDeal — what the verifiers of the dealing operations return when they pass, read off the model
  once: the verdict of `_verify_cards_consumption` they pass on, the flags they tested, the bounds they checked.
-/
import PK.Model.Machine
import PK.Proofs.Guard
namespace PK
open State

variable {cfg : Config} {env : Env}

theorem verify_cards_val {s : State} {cs : List Card} {v : Verdict (List Card)}
    (h : s.verifyCardsConsumption cfg env (.cards cs) = .ok v) : v.val = cs := by
  unfold State.verifyCardsConsumption at h
  simp only at h
  split at h
  · unfold State.warnOr at h
    split at h
    · cases h
    · cases h; rfl
  · cases h; rfl

theorem verifyCardBurning_spec {s : State} {arg : CardsArg} {v : Verdict Card}
    (h : s.verifyCardBurning cfg env arg = .ok v) :
    s.verifyCardsConsumption cfg env (match (generalizing := false) arg with | .none => .count 1 | a => a) =
        .ok ⟨[v.val], v.warned⟩ ∧
      s.cardBurning = true ∧ anyB s.standingPat = false := by
  unfold State.verifyCardBurning at h
  split at h
  · cases h
  · rename_i v0 hv0
    simp only [ite_error_eq_ok] at h
    obtain ⟨hb, hp, h⟩ := h
    split at h
    · rename_i c hc
      cases h
      exact ⟨hc ▸ hv0, by simpa using hb, by simpa using hp⟩
    · cases h

theorem verifyHoleDealing0_ok {s : State} (h : s.verifyHoleDealing0 = .ok ()) :
    s.cardBurning = false ∧ s.anyHoleDealing = true ∧ anyB s.standingPat = false := by
  unfold State.verifyHoleDealing0 at h
  simpa [ite_error_eq_ok] using h

theorem verifyHoleDealing_spec {s : State} {arg : CardsArg} {i : Option Nat}
    {v : Verdict (List Card × Nat)} (h : s.verifyHoleDealing cfg env arg i = .ok v) :
    s.verifyHoleDealing0 = .ok () ∧
    s.verifyCardsConsumption cfg env (match (generalizing := false) arg with | .none => .count 1 | a => a) =
        .ok ⟨v.val.1, v.warned⟩ ∧
      v.val.2 < cfg.n ∧ 1 ≤ v.val.1.length ∧ v.val.1.length ≤ (s.holeDealing.getD v.val.2 []).length := by
  unfold State.verifyHoleDealing at h
  split at h
  · cases h
  · rename_i h0
    split at h
    · cases h
    · rename_i v0 hv0
      simp only at h
      split at h
      · cases h
      · simp only [ite_error_eq_ok] at h
        obtain ⟨hlt, -, hcnt, hv⟩ := h
        cases hv
        simp only [Bool.not_eq_true, Bool.not_eq_false', Bool.and_eq_true, decide_eq_true_eq] at hcnt
        exact ⟨h0, hv0, Nat.lt_of_not_le hlt, hcnt⟩

theorem verifyBoardDealing0_ok {s : State} (h : s.verifyBoardDealing0 = .ok ()) :
    s.cardBurning = false ∧ s.anyBoardDealing = true ∧ anyB s.standingPat = false := by
  unfold State.verifyBoardDealing0 at h
  simpa [ite_error_eq_ok] using h

theorem boardDealingCount_some {s : State} {bdc : Int} (h : s.boardDealingCount = some bdc) :
    bdc ∈ s.boardDealing ∧ bdc ≠ 0 := by
  unfold State.boardDealingCount at h
  split at h
  · cases h
  · exact ⟨List.mem_of_find?_eq_some h, by simpa using List.find?_some h⟩

theorem verifyBoardDealing_spec {s : State} {arg : CardsArg} {v : Verdict (List Card)}
    (h : s.verifyBoardDealing cfg env arg = .ok v) :
    s.verifyBoardDealing0 = .ok () ∧ ∃ bdc, s.boardDealingCount = some bdc ∧
      s.verifyCardsConsumption cfg env (match (generalizing := false) arg with | .none => .count bdc | a => a) = .ok v ∧
      0 < v.val.length ∧ (v.val.length : Int) ≤ bdc := by
  unfold State.verifyBoardDealing at h
  split at h
  · cases h
  · rename_i h0
    split at h
    · cases h
    · rename_i bdc hbdc
      split at h
      · cases h
      · rename_i v0 hv0
        obtain ⟨hcnt, hv⟩ := ite_error_eq_ok.1 h
        cases hv
        simp only [Bool.not_eq_true, Bool.not_eq_false', Bool.and_eq_true, decide_eq_true_eq] at hcnt
        exact ⟨h0, bdc, hbdc, hv0, hcnt⟩

theorem verifyStandingPat_spec {s : State} {cards out : List Card} (h : s.verifyStandingPat cards = .ok out) :
    out = cards ∧ ∃ p, s.standerPatIndex = some p ∧ ∀ c ∈ cards, cards.count c ≤ (s.holeOf p).count c := by
  unfold State.verifyStandingPat at h
  split at h
  · cases h
  · rename_i p hp
    split at h
    · rename_i hall
      cases h
      exact ⟨rfl, p, hp, fun c hc => by simpa using List.all_eq_true.1 hall c hc⟩
    · cases h

end PK
