/-
  PK.Proofs.VerifyFlagged — the verifiers of ante posting, blind or straddle posting, run-out count selection, hand
  killing and chips pulling take an optional player index and look the player up in a table of flags: their common
  body `verifyFlagged`, what it has checked when it passes (`verifyFlagged_ok`), that without an index and with a flag
  up it finds a player (`firstTrue_spec`) and gets as far as its last check (`verifyFlagged_none`), and that these
  verifiers accept the player they answer with (`verify*_idem`).
-/
import PK.Model.Machine
import PK.Proofs.Guard
namespace PK
open State

variable {cfg : Config}

theorem firstTrue_some {l : List Bool} {p : Nat} (h : firstTrue l = some p) : anyB l = true := by
  unfold firstTrue indexOf? at h
  dsimp only at h
  split at h
  · exact List.any_eq_true.2 ⟨true, List.idxOf_lt_length_iff.1 ‹_›, rfl⟩
  · cases h

theorem firstTrue_spec {l : List Bool} (h : anyB l = true) :
    ∃ p, firstTrue l = some p ∧ p < l.length ∧ getB l p = true := by
  obtain ⟨x, hx, rfl⟩ := List.any_eq_true.1 h
  have hlt : l.idxOf true < l.length := List.idxOf_lt_length_iff.2 hx
  refine ⟨l.idxOf true, by simp [firstTrue, indexOf?, hlt], hlt, ?_⟩
  simp [getB, List.getElem?_eq_getElem hlt, List.getElem_idxOf hlt]

/-- the table `l` has a flag up, and the player — the explicit one, else the first one flagged — exists and is
    flagged; `k` checks what remains (the four verifiers other than run-out selection are
    `verifyFlagged cfg.n table i .ok` by unfolding) -/
def verifyFlagged (n : Nat) (l : List Bool) (i : Option Nat) (k : Nat → Except Err Nat) : Except Err Nat :=
  if !anyB l then .error .valueError
  else
    let p := match i with
      | some p => p
      | none => (firstTrue l).getD 0
    if p ≥ n then .error .indexError
    else if !getB l p then .error .valueError
    else k p

theorem verifyRunout_eq (cfg : Config) (s : State) (c : Option Int) (i : Option Nat) :
    s.verifyRunoutCountSelection cfg c i = verifyFlagged cfg.n s.runoutSelectors i fun p =>
      if (match c with | some c => decide (c < 1) | none => false) then .error .valueError else .ok p := rfl

theorem verifyFlagged_ok {n : Nat} {l : List Bool} {i : Option Nat} {k : Nat → Except Err Nat} {p : Nat} :
    verifyFlagged n l i k = .ok p ↔ anyB l = true ∧ i.getD ((firstTrue l).getD 0) < n ∧
      getB l (i.getD ((firstTrue l).getD 0)) = true ∧ k (i.getD ((firstTrue l).getD 0)) = .ok p := by
  cases i <;> simp [verifyFlagged, ite_error_eq_ok]

theorem verifyFlagged_any {n : Nat} {l : List Bool} {i : Option Nat} {k : Nat → Except Err Nat} {p : Nat}
    (h : verifyFlagged n l i k = .ok p) : anyB l = true :=
  (verifyFlagged_ok.1 h).1

theorem verifyFlagged_some {n : Nat} {l : List Bool} {i p : Nat} {k : Nat → Except Err Nat}
    (h : verifyFlagged n l (some i) k = .ok p) : k i = .ok p :=
  (verifyFlagged_ok.1 h).2.2.2

theorem verifyFlagged_idem {n : Nat} {l : List Bool} {i : Option Nat} {k : Nat → Except Err Nat} {p : Nat}
    (hk : ∀ q, k q = .ok p → q = p) (h : verifyFlagged n l i k = .ok p) : verifyFlagged n l (some p) k = .ok p := by
  obtain ⟨h1, h2, h3, h4⟩ := verifyFlagged_ok.1 h
  rw [hk _ h4] at h2 h3 h4
  exact verifyFlagged_ok.2 ⟨h1, h2, h3, h4⟩

theorem verifyFlagged_none {n : Nat} {l : List Bool} {k : Nat → Except Err Nat} (h : anyB l = true)
    (hlen : l.length ≤ n) : ∃ q, verifyFlagged n l none k = k q := by
  obtain ⟨p, hp, hlt, hb⟩ := firstTrue_spec h
  have h1 : ¬ p ≥ n := by omega
  exact ⟨p, by simp [verifyFlagged, h, hp, h1, hb]⟩

theorem verifyAnte_idem {s : State} {i : Option Nat} {p : Nat} (h : s.verifyAntePosting cfg i = .ok p) :
    s.verifyAntePosting cfg (some p) = .ok p :=
  verifyFlagged_idem (k := .ok) (fun _ => Except.ok.inj) h

theorem verifyBlind_idem {s : State} {i : Option Nat} {p : Nat} (h : s.verifyBlindPosting cfg i = .ok p) :
    s.verifyBlindPosting cfg (some p) = .ok p :=
  verifyFlagged_idem (k := .ok) (fun _ => Except.ok.inj) h

theorem verifyKill_idem {s : State} {i : Option Nat} {p : Nat} (h : s.verifyHandKilling cfg i = .ok p) :
    s.verifyHandKilling cfg (some p) = .ok p :=
  verifyFlagged_idem (k := .ok) (fun _ => Except.ok.inj) h

theorem verifyPull_idem {s : State} {i : Option Nat} {p : Nat} (h : s.verifyChipsPulling cfg i = .ok p) :
    s.verifyChipsPulling cfg (some p) = .ok p :=
  verifyFlagged_idem (k := .ok) (fun _ => Except.ok.inj) h

theorem verifyRunout_idem {s : State} {c : Option Int} {i : Option Nat} {p : Nat}
    (h : s.verifyRunoutCountSelection cfg c i = .ok p) :
    s.verifyRunoutCountSelection cfg c (some p) = .ok p := by
  rw [verifyRunout_eq] at h ⊢
  exact verifyFlagged_idem (fun _ hq => Except.ok.inj (of_guard hq)) h

end PK
