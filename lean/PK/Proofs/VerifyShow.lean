/-
  PK.Proofs.VerifyShow — what `verify_hole_cards_showing_or_mucking` returns when it passes, read off the model's
  `verifyShow` once: the player it settled on, and the plan as `showExplicit` and `showTriple` made it; hence what a
  plain show tables (`verifyShow_plan`) and what a show naming cards hands to the dealability check
  (`showExplicit_cards_eq`, `verifyShow_cards`).
-/
import PK.Model.Machine
import PK.Proofs.Guard
namespace PK
open State

variable {cfg : Config} {env : Env}

theorem showFinal_spec {s : State} {p : Nat} {status : Bool} {t : List Card × List Card × List Bool}
    {w : Bool} {v : Verdict ShowPlan} (h : s.showFinal cfg p status t w = .ok v) :
    v.val = ⟨status, t.1, t.2.1, t.2.2, p⟩ ∧ v.warned = w ∧
    (status = true → t.2.1.length = (s.holeOf p).length) ∧
    ((s.street cfg).isNone = true → status = true ∧ allB t.2.2 = true) := by
  unfold State.showFinal at h
  simp only [ite_error_eq_ok] at h
  obtain ⟨-, -, hlen, hst, hv⟩ := h
  cases hv
  refine ⟨rfl, rfl, fun hs => ?_, fun hn => by simpa [hn] using hst⟩
  subst hs
  simp only [Bool.true_and, Bool.not_eq_true', Bool.not_eq_false, Bool.and_eq_true, beq_iff_eq] at hlen
  exact hlen.1.1.2

theorem showPlayer_lt {s : State} {i : Option Nat} {p : Nat} (h : s.showPlayer cfg i = .ok p) : p < cfg.n := by
  unfold State.showPlayer at h
  simp only [] at h
  split at h
  · cases h
  · simp only [ite_error_eq_ok] at h
    obtain ⟨hlt, -, -, hq⟩ := h
    cases hq
    omega

theorem verifyShow_spec {s : State} {a : ShowArg} {i : Option Nat} {v : Verdict ShowPlan}
    (h : s.verifyShow cfg env a i = .ok v) :
    v.val.player < cfg.n ∧ ∃ v', s.showExplicit cfg env a v.val.player = .ok v' ∧ v.warned = v'.warned ∧
      v.val.status = v'.val.1 ∧ v.val.holeCards = (showTriple (s.holeOf v.val.player) v'.val.1 v'.val.2).2.1 ∧
      (v.val.status = true → v.val.holeCards.length = (s.holeOf v.val.player).length) ∧
      ((s.street cfg).isNone = true → v.val.status = true) := by
  unfold State.verifyShow at h
  split at h
  · cases h
  · split at h
    · cases h
    · rename_i p hp
      split at h
      · cases h
      · rename_i v' hv'
        obtain ⟨f1, f2, f3, f4⟩ := showFinal_spec h
        rw [f1]
        exact ⟨showPlayer_lt hp, v', hv', f2, rfl, rfl, f3, fun hn => (f4 hn).1⟩

theorem verifyShow_none_status {s : State} {arg : ShowArg} {i : Option Nat} {v : Verdict ShowPlan}
    (hv : s.verifyShow cfg env arg i = .ok v) (hn : (s.street cfg).isNone = true) :
    v.val.status = true := by
  obtain ⟨_, _, _, _, _, _, _, h⟩ := verifyShow_spec hv
  exact h hn

/-- the request does not name cards (it is `None`, `True` or `False`) -/
def State.ShowArg.plain : ShowArg → Prop
  | .cards _ => False
  | _ => True

theorem showExplicit_plain {s : State} {arg : ShowArg} {p : Nat}
    {v : Verdict (Bool × Option (List Card × List Card × List Bool))}
    (h : s.showExplicit cfg env arg p = .ok v) (hp : arg.plain) : ∃ b, v = ⟨(b, none), false⟩ := by
  unfold State.showExplicit at h
  cases arg with
  | cards cs => cases hp
  | status b => exact ⟨b, by cases h; rfl⟩
  | none =>
    simp only at h
    split at h
    · exact ⟨true, by cases h; rfl⟩
    · split at h
      · cases h
      · exact ⟨_, by cases h; rfl⟩

theorem verifyShow_plan {s : State} {arg : ShowArg} {i : Option Nat} {v : Verdict ShowPlan}
    (h : s.verifyShow cfg env arg i = .ok v) (hp : arg.plain) (hs : v.val.status = true) :
    v.val.holeCards = s.holeOf v.val.player := by
  obtain ⟨_, v', hv', _, e1, e2, _⟩ := verifyShow_spec h
  obtain ⟨b, rfl⟩ := showExplicit_plain hv' hp
  rw [e2, ← e1, hs]
  rfl

def padCards (own cs : List Card) : List Card := cs ++ List.replicate (own.length - cs.length) Card.unknownCard

/-- the new hole cards of an explicit show (state.py:5472-5492), from the padded list of tabled cards -/
def planHc (cfg : Config) (s : State) (own cards : List Card) : List Card :=
  let hc := cards.filter Card.known
  let hc :=
    if !s.streetIsLast cfg then
      hc ++ ((own.filter Card.known).filter (fun c => !hc.contains c)).take (own.length - hc.length)
    else hc
  hc ++ List.replicate (own.length - hc.length) Card.unknownCard

/-- the facings of an explicit show.  `(List.replicate …).length` is the model's `hs.length` as it stands: with the
    count in its place `showExplicit_cards_eq` does not hold by `rfl` -/
def planHs (own cards : List Card) : List Bool :=
  List.replicate (cards.filter Card.known).length true ++
    List.replicate (own.length - (List.replicate (cards.filter Card.known).length true).length) false

theorem showExplicit_cards_eq (s : State) (cs : List Card) (p : Nat) :
    s.showExplicit cfg env (.cards cs) p =
      if cs.length > (s.holeOf p).length then .error .valueError
      else match s.verifyCardsConsumption cfg env
          (.cards ((s.holeOf p).foldl (fun l c => l.erase c)
            ((planHc cfg s (s.holeOf p) (padCards (s.holeOf p) cs)).filter Card.known))) with
        | .error e => .error e
        | .ok v => .ok ⟨(true, some (padCards (s.holeOf p) cs, planHc cfg s (s.holeOf p) (padCards (s.holeOf p) cs),
                          planHs (s.holeOf p) (padCards (s.holeOf p) cs))), v.warned⟩ := by
  unfold State.showExplicit
  rfl

theorem verifyShow_cards {s : State} {cs : List Card} {i : Option Nat} {v : Verdict ShowPlan}
    (h : s.verifyShow cfg env (.cards cs) i = .ok v) :
    v.val.status = true ∧ v.val.holeCards.length = (s.holeOf v.val.player).length ∧
    ∃ v0, s.verifyCardsConsumption cfg env
        (.cards ((s.holeOf v.val.player).foldl (fun l c => l.erase c) (v.val.holeCards.filter Card.known))) = .ok v0 ∧
      v0.warned = v.warned := by
  obtain ⟨_, v', hv', e0, e1, e2, e3, _⟩ := verifyShow_spec h
  rw [showExplicit_cards_eq] at hv'
  split at hv'
  · cases hv'
  · split at hv'
    · cases hv'
    · rename_i v0 hv0
      cases hv'
      exact ⟨e1, e3 e1, v0, e2 ▸ hv0, e0.symm⟩

end PK
