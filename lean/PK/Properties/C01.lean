/-
  C01 — Chips are conserved: none created, none destroyed, payoffs are zero-sum.

  `Ledger cfg s` (PK/Spec/Ledger.lean) is the per-state statement.  Theorems:

  * `C01_init`          the freshly set-up state satisfies the ledger;
  * `C01_step`          every micro-step of the machine — every python method body of the
                        `_begin/_update/_end` cascade and every public operation, including the
                        ones fired by automation — preserves it;
  * `C01_run`           hence every state reached by running the cascade does;
  * `C01_pots_sum`      the layer-cake identity: what the `pots` property returns adds up to
                        the chips that are in no stack and in front of nobody, each pot is
                        non-negative and its eligible players are distinct valid seats
                        (any rake configuration, any number of side pots);
  * `C01_conservation`  stacks + bets + pots = starting stacks and no pot is negative, at every such state;
  * `C01_zero_sum`      when nothing is left on the table (no bets, nothing unraked in the frozen pots)
                        the payoffs add up to minus the rake.

  `C01_step` carries two explicit hypotheses (`C01_step_full` below is the statement without them; it is false):
    (a) `(step m).err = none` — the step did not end in an escaping exception.  A *refused*
        operation leaves the state untouched (C08_refused_unchanged); an internal failure in
        the middle of `push_chips` leaves the python object half-updated (pot reduced, bets
        not yet increased), and the ledger is indeed false there — see the recorded finding F12a.
    (b) no bet collection is pending once the pots are frozen (`bet_collection_status` is
        false whenever `_pots` is set).  This is a control-flow fact of the phase machine
        (C07); it is not proved here, it is *checked* on every step of every trace of the
        correspondence run (driver line `A frozen-collect`).
-/
import PK.Proofs.LedgerStep
namespace PK
open State M

variable {cfg : Config} {env : Env}

/-- the statement without (a) and (b): false as it stands (finding F12a, see the header) -/
def C01_step_full (cfg : Config) (env : Env) : Prop :=
  CfgOk cfg → ∀ m : M, Ledger cfg m.st → Ledger cfg (step cfg env m).st

/-- hypothesis (b): no bet collection is pending once the pots are frozen -/
def NoCollectWhenFrozen (m : M) : Prop :=
  m.st.pots_.isSome = true → m.st.betCollection = false

theorem startingStacks_nonneg (hc : CfgOk cfg) (i : Nat) : 0 ≤ getI cfg.startingStacks i := by
  unfold getI
  rw [List.getD_eq_getElem?_getD]
  cases hg : cfg.startingStacks[i]? with
  | none => exact Int.le_refl 0
  | some v => exact Int.le_of_lt ((Config.valid_of_validate hc.valid).stacks v (List.mem_of_getElem? hg))

theorem C01_init (hc : CfgOk cfg) (env : Env) : Ledger cfg (setup cfg env) := by
  unfold setup
  constructor
  · simp [playerIndices]
  · simp
  · simp
  · intro i hi
    simp only [playerIndices, getI_map_range _ _ _ hi]
    exact startingStacks_nonneg hc i
  · intro i hi; simp only [getI_replicate _ _ _ hi]; omega
  · intro i hi
    simp only [playerIndices, getI_map_range _ _ _ hi, getI_replicate _ _ _ hi]; omega
  · intro ps hps; cases hps
  · intro sp hsp; cases hsp
  · intro c hc'; cases hc'

theorem C01_step (hc : CfgOk cfg) (m : M) (h : Ledger cfg m.st)
    (hb : NoCollectWhenFrozen m) (ha : (step cfg env m).err = none) :
    Ledger cfg (step cfg env m).st := by
  cases hctl : m.ctl with
  | nil => rw [step_nil hctl]; exact h
  | cons f rest =>
    cases f with
    | opPostAnte i | opPostBlind i =>
      step_at hctl
      split
      · exact h
      · split
        · exact h
        · split
          · exact h
          · rename_i hb hst
            exact h.post hb hst rfl
    | opCall => exact ledger_opCall m h rest hctl
    | opBringIn => exact ledger_opBringIn (Config.valid_of_validate hc.valid).bringIn m h rest hctl
    | opCbr a => exact ledger_opCbr hc m h a rest hctl
    | opPull i => exact ledger_opPull m h i rest hctl
    | opRunout c i => exact ledger_opRunout m h c i rest hctl
    | opCollect => exact ledger_opCollect m h hb rest hctl
    | beginPush =>
      obtain ⟨hn, hfp⟩ := step_beginPush_ok hctl ha
      exact freezePots_ledger hc h hn hfp
    | opPush =>
      obtain ⟨ps, sp, sps, op, hps, hsub, hpush⟩ := step_opPush_ok hctl ha
      exact pushChips_ledger h hps hsub hpush
    -- no other frame writes a chip field
    | _ => exact h.of_view (step_view chipView hctl fun _ _ => rfl)

/-- hypotheses (a) and (b) at each of the next `k` micro-steps -/
def SafeSteps (cfg : Config) (env : Env) : Nat → M → Prop
  | 0, _ => True
  | k + 1, m => m.ctl = [] ∨
      (NoCollectWhenFrozen m ∧ (step cfg env m).err = none ∧ SafeSteps cfg env k (step cfg env m))

theorem C01_run (hc : CfgOk cfg) (k : Nat) (m : M) (h : Ledger cfg m.st)
    (hs : SafeSteps cfg env k m) : Ledger cfg (run cfg env k m).st := by
  induction k generalizing m with
  | zero => exact h
  | succ k ih =>
    unfold run
    cases hctl : m.ctl with
    | nil => exact h
    | cons f rest =>
      rcases hs with hnil | ⟨hb, ha, hrest⟩
      · rw [hctl] at hnil; cases hnil
      · exact ih _ (C01_step hc m h hb ha) hrest

theorem C01_pots_sum (cfg : Config) (s : State) (ps : List Pot)
    (hp : s.payoffs.length = cfg.n) (hb : s.bets.length = cfg.n) (hnone : s.pots_ = none)
    (h : s.pots cfg = .ok ps) :
    potsTotal ps = inPots s ∧ ∀ p ∈ ps, PotOk cfg.n p := pots_sum cfg s ps hp hb hnone h

theorem C01_conservation {s : State} (h : Ledger cfg s) (ps : List Pot) (hps : s.pots cfg = .ok ps) :
    sumI s.stacks + sumI s.bets + potsTotal ps
      = sumI ((List.range cfg.n).map (getI cfg.startingStacks)) ∧
    ∀ p ∈ ps, 0 ≤ p.raked ∧ 0 ≤ p.unraked := by
  cases hf : s.pots_ with
  | some fps =>
    have : ps = fps := by
      unfold State.pots at hps; rw [hf] at hps; cases hps; rfl
    subst this
    obtain ⟨hok, hsum⟩ := h.frozen ps hf
    exact ⟨hsum, fun p hp => ⟨(hok p hp).1, (hok p hp).2.1⟩⟩
  | none =>
    obtain ⟨htot, hok⟩ := pots_sum cfg s ps h.lenPayoffs h.lenBets hf hps
    refine ⟨?_, fun p hp => ⟨(hok p hp).1, (hok p hp).2.1⟩⟩
    rw [htot]
    have := sum_payoffDef h
    simp only [inPots]; omega

theorem C01_zero_sum {s : State} (h : Ledger cfg s) (ps : List Pot) (hps : s.pots_ = some ps)
    (hbets : sumI s.bets = 0) (hun : sumI (ps.map (·.unraked)) = 0) :
    sumI s.payoffs = - sumI (ps.map (·.raked)) := by
  obtain ⟨_, hsum⟩ := h.frozen ps hps
  have h1 := sum_payoffDef h
  have h2 : potsTotal ps = sumI (ps.map (·.raked)) + sumI (ps.map (·.unraked)) := by
    unfold potsTotal
    rw [← sumI_map_add]; rfl
  omega

theorem C01_payoff {s : State} (h : Ledger cfg s) (i : Nat) (hi : i < cfg.n) :
    getI s.payoffs i = getI s.stacks i - getI cfg.startingStacks i := h.payoffDef i hi

/-- non-vacuity: a concrete valid configuration -/
def exampleCfg : Config :=
  { autos := [], deck := Deck.standard, handTypes := [.standardHigh],
    streets := [⟨0, false, [false, false], 0, false, .position, 2, none⟩],
    structure_ := .noLimit, anteTrim := true, antes := [0, 0], blinds := [1, 2], bringIn := 0,
    startingStacks := [100, 100], n := 2 }

example : CfgOk exampleCfg := ⟨by decide, by decide⟩

end PK
