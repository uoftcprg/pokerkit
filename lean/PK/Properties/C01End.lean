/-
  C01, the end of the hand — **when a hand ends nothing is left on the table**: every bet has been pulled in
  and every frozen pot has been pushed out completely, so (with `C01_zero_sum`) the payoffs add up to minus
  the rake.

  * `C01_push_step`   what is unraked in the frozen pots is, in total, what the queued sub-pots add up to
                      (`PushInv`; totals, not pot by pot):
                      `_begin_chips_pushing` queues sub-pots that add up to the pots (split over boards and
                      hand types, remainders to the first board / first hand type: `subPotsOfPot_sum`), each
                      push takes exactly its sub-pot out of its pot, nothing else writes either
                      (`pv_frame`).  Side condition (e): somebody is still in the hand when the pots are
                      frozen — otherwise nothing is queued and the chips stay in the pot (recorded finding
                      F12c: everybody mucks);
  * `C01_pull_step`   the chips-pulling bookkeeping (`PullInv`): while chips pulling is pending every
                      player who is not flagged has nothing in front of him; `_begin_chips_pulling` flags
                      exactly the players with chips in front of them, each pull zeroes one, and nothing
                      else can touch a bet meanwhile (every other operation is refused: it needs its own
                      phase, and only one phase is ever active — C07's invariant);
  * `C01_end_of_hand` hence, along any history without escaping exceptions and satisfying (b) and (e), when
                      `_end` (the frame `endHand`) runs all bets are zero and nothing unraked is left in the
                      frozen pots (`potTotal ps = 0`; the rake stays in them), and
  * `C01_final_zero_sum`  the payoffs of the finished hand add up to minus what was raked.
-/
import PK.Proofs.Frames
import PK.Properties.C01
import PK.Properties.C07
namespace PK
open State M

variable {cfg : Config} {env : Env}

/-- what is unraked in the frozen pots equals what is queued, in total (not pot by pot) -/
def PushInv (s : State) : Prop := ∀ ps, s.pots_ = some ps → potTotal ps = subTotal s.subPots

/-- (e): somebody is still in the hand when `_begin_chips_pushing` runs -/
def SomebodyLeft (m : M) : Prop := ∀ rest, m.ctl = .beginPush :: rest → 1 ≤ m.st.liveCount

theorem C01_push_step (hc : CfgOk cfg) (m : M) (hL : Ledger cfg m.st) (h : PushInv m.st)
    (hs : SomebodyLeft m) (herr : (step cfg env m).err = none) : PushInv (step cfg env m).st := by
  refine step_writers (pv_frame m) (fun e ps hps => by
    rw [show (step cfg env m).st.subPots = m.st.subPots from congrArg PV.subs e]
    exact h ps ((congrArg PV.pots e).symm.trans hps)) fun f rest hctl hf => ?_
  cases f <;> cases hf
  case beginPush =>
    obtain ⟨-, hfp⟩ := step_beginPush_ok hctl herr
    obtain ⟨ps, hps, hsum⟩ := freezePots_sum (boardCount_pos hc hL) (hs rest hctl) hfp
    intro ps' hps'
    cases hps.symm.trans hps'
    exact hsum
  case opPush =>
    obtain ⟨ps, sp, sps, op, hps, hsub, hp⟩ := step_opPush_ok hctl herr
    obtain ⟨ps', hps', hsum, hsubs⟩ := pushChips_sum hp
    intro ps'' hps''
    cases hps'.symm.trans hps''
    have := h ps hps
    rw [hsub] at this
    rw [hsum, hsubs, this]
    unfold subTotal
    simp only [List.map_cons, sumI_cons]
    omega

/-- only players flagged for chips pulling have chips in front of them -/
def Quiet (cfg : Config) (s : State) : Prop :=
  ∀ i < cfg.n, getB s.chipsPulling i = false → getI s.bets i = 0

def AllZero (cfg : Config) (s : State) : Prop := ∀ i < cfg.n, getI s.bets i = 0

theorem Quiet.of_bv {s s' : State} (h : Quiet cfg s) (e : bv s' = bv s) : Quiet cfg s' := by
  have e1 : s'.bets = s.bets := congrArg BV.bets e
  have e2 : s'.chipsPulling = s.chipsPulling := congrArg BV.pulling e
  intro i hi hf; rw [e1]; rw [e2] at hf; exact h i hi hf

/-- the three frames that only the chips-pulling code pushes -/
def Ctl.pullTail : Ctl → Bool
  | .updPull _ | .endPull | .endHand => true
  | _ => false

/-- the frames of the chips-pulling code; only they push a frame of `pullTail` (`head_pullTail`) -/
def Ctl.pullSource : Ctl → Bool
  | .beginPull | .opPull _ | .updPull _ | .endPull => true
  | _ => false

theorem isK_not_pullTail (g : Ctl) (h : g.isK = true) : g.pullTail = false := by
  cases g <;> first | rfl | cases h

theorem head_pullTail (m : M) (hP : PhaseInv cfg m) (f : Ctl) (rest : List Ctl) (hctl : m.ctl = f :: rest)
    (hf : f.pullSource = false) (g : Ctl) (r' : List Ctl) (hc : (step cfg env m).ctl = g :: r') :
    g.pullTail = false := by
  rcases step_ctl (cfg := cfg) (env := env) hctl with ⟨h0, _⟩ | ⟨fs, hp, hfs, _⟩
  · rw [h0] at hc; cases hc
  · have hg : g ∈ fs ++ rest := by rw [← hfs, hc]; exact List.mem_cons_self
    rcases List.mem_append.1 hg with hg | hg
    · -- no edge out of a frame that is not chips-pulling code leads into the tail
      have : fs.all (fun g => !g.pullTail) = true := by cases hp <;> first | rfl | cases hf
      simpa using List.all_eq_true.1 this g hg
    · exact isK_not_pullTail g (hP.tail f rest hctl g hg)

theorem verifyPull_spec {s : State} {i : Option Nat} {p : Nat} (h : s.verifyChipsPulling cfg i = .ok p) :
    Phase.pull.flag s = true ∧ p < cfg.n := by
  obtain ⟨hf, hn, -, hk⟩ := verifyFlagged_ok.1 (show verifyFlagged cfg.n s.chipsPulling i .ok = .ok p from h)
  cases hk
  exact ⟨hf, hn⟩

theorem bv_while_pulling (m : M) (hP : PhaseInv cfg m) (hp : Phase.pull.flag m.st = true)
    (f : Ctl) (rest : List Ctl) (hctl : m.ctl = f :: rest) (hf : f.pullSource = false) :
    bv (step cfg env m).st = bv m.st := by
  by_cases hw : f.writesBets = false
  · exact bv_frame m f rest hctl hw
  · -- an operation of another phase: it is refused, or else it found its own phase pending beside chips pulling
    have hop : f.isOp = true ∧ ∃ X, f.phaseOf = some X ∧ X ≠ .pull ∧ ∀ a i, f ≠ .opShow a i := by
      cases f <;> first | exact absurd rfl hw | exact ⟨rfl, _, rfl, by decide, nofun⟩ | cases hf
    obtain ⟨hop, X, hX, hne, hsh⟩ := hop
    cases hv : verifyOp cfg env m.st f with
    | error e => rw [step_refused hctl hop hv]; rfl
    | ok u => exact absurd ((hP.excl.of_flag (verifyOp_flag hv hX (.inr hsh))) .pull hp).symm hne

/-- `Quiet` while chips pulling is pending and at the two frames that follow a pull; at `endPull` no flag is left,
    so `Quiet` is `AllZero` there, which is what `endHand` finds -/
structure PullInv (cfg : Config) (m : M) : Prop where
  flagged : Phase.pull.flag m.st = true → Quiet cfg m.st
  upd : ∀ op rest, m.ctl = .updPull op :: rest → Quiet cfg m.st
  endp : ∀ rest, m.ctl = .endPull :: rest → Quiet cfg m.st ∧ Phase.pull.flag m.st = false
  fin : ∀ rest, m.ctl = .endHand :: rest → AllZero cfg m.st

theorem PullInv.of_quiet {m' : M} (hq : Phase.pull.flag m'.st = true → Quiet cfg m'.st)
    (hh : ∀ g r, m'.ctl = g :: r → g.pullTail = false) : PullInv cfg m' :=
  ⟨hq, (fun _ _ h => nomatch hh _ _ h), (fun _ h => nomatch hh _ _ h), (fun _ h => nomatch hh _ _ h)⟩

theorem pull_init : PullInv cfg ({ st := setup cfg env, ctl := [.beginAnte] } : M) := by
  refine .of_quiet (fun h => ?_) fun g r h => by cases h; rfl
  rw [setup_allClear .pull] at h; cases h

theorem C01_pull_step (m : M) (hP : PhaseInv cfg m) (hL : Ledger cfg m.st) (h : PullInv cfg m) :
    PullInv cfg (step cfg env m) := by
  cases hctl : m.ctl with
  | nil => rw [step_nil hctl]; exact h
  | cons f rest =>
    by_cases hsrc : f.pullSource = false
    · -- a frame from outside the chips-pulling code: it does not set the flags, and while one is set it is
      -- refused if it could touch a bet
      refine .of_quiet (fun hfl => ?_) (head_pullTail m hP f rest hctl hsrc)
      have hcp : (step cfg env m).st.chipsPulling = m.st.chipsPulling :=
        step_view (·.chipsPulling) hctl (by cases f <;> first | exact fun _ _ => rfl | cases hsrc)
      have hp : Phase.pull.flag m.st = true := by simpa only [Phase.flag, hcp] using hfl
      exact (h.flagged hp).of_bv (bv_while_pulling m hP hp f rest hctl hsrc)
    · cases f <;> first | exact absurd rfl hsrc | skip
      case beginPull =>
        step_at hctl
        split
        · exact .of_quiet h.flagged fun g r hc => nomatch hc
        · have hq : Quiet cfg { m.st with
              chipsPulling := (playerIndices cfg).map fun i => decide (getI m.st.bets i > 0) } := by
            intro i hi hfl
            have : getB ((playerIndices cfg).map fun i => decide (getI m.st.bets i > 0)) i
                = decide (getI m.st.bets i > 0) := by
              simp [getB, playerIndices, List.getD, hi]
            rw [this, decide_eq_false_iff_not] at hfl
            have h0 := hL.nonnegBets i hi
            show getI m.st.bets i = 0
            omega
          exact ⟨fun _ => hq, fun _ _ _ => hq, (fun _ hc => nomatch hc), (fun _ hc => nomatch hc)⟩
      case updPull op =>
        have hq : Quiet cfg (M.log m.st op) := (h.upd op rest hctl).of_bv (by cases op <;> rfl)
        step_at hctl
        split
        · rename_i hnone
          refine ⟨fun _ => hq, (fun _ _ hc => nomatch hc), fun _ _ => ⟨hq, ?_⟩, (fun _ hc => nomatch hc)⟩
          simpa [Phase.flag] using hnone
        · split
          · exact .of_quiet (fun _ => hq) fun g r hc => by cases hc; rfl
          · refine .of_quiet (fun _ => hq) fun g r hc => isK_not_pullTail g (hP.tail _ rest hctl g ?_)
            rw [show rest = g :: r from hc]
            exact List.mem_cons_self
      case opPull i =>
        step_at hctl
        split
        · exact .of_quiet h.flagged fun g r hc => nomatch hc
        · rename_i p hv
          obtain ⟨hflag, hpn⟩ := verifyPull_spec hv
          have hq : Quiet cfg { m.st with
              stacks := m.st.stacks.set p (getI m.st.stacks p + getI m.st.bets p)
              payoffs := m.st.payoffs.set p (getI m.st.payoffs p + getI m.st.bets p)
              bets := m.st.bets.set p 0
              chipsPulling := m.st.chipsPulling.set p false } := by
            intro j hj hfl
            show getI (m.st.bets.set p 0) j = 0
            rw [getI_set _ _ _ _ (by rw [hL.lenBets]; exact hpn)]
            split
            · rfl
            · rename_i hpj
              refine h.flagged hflag j hj ?_
              simpa [getB, List.getElem?_set_ne hpj] using hfl
          exact ⟨fun _ => hq, fun _ _ _ => hq, (fun _ hc => nomatch hc), (fun _ hc => nomatch hc)⟩
      case endPull =>
        obtain ⟨hq, hnone⟩ := h.endp rest hctl
        step_at hctl
        refine ⟨fun hfl => ?_, (fun _ _ hc => nomatch hc), (fun _ hc => nomatch hc), fun _ _ i hi => ?_⟩
        · simp only [Phase.flag, cont_st, anyB_map_false] at hfl
          cases hfl
        · refine hq i hi (Bool.eq_false_iff.2 fun hb => ?_)
          rw [Phase.flag, getB_true_anyB hb] at hnone
          cases hnone

/-- histories without escaping exceptions that satisfy the side conditions (b) and (e) -/
inductive CleanReach (cfg : Config) (env : Env) : M → Prop where
  | init : CleanReach cfg env { st := setup cfg env, ctl := [.beginAnte] }
  | step {m} : CleanReach cfg env m → NoCollectWhenFrozen m → SomebodyLeft m →
      (step cfg env m).err = none → CleanReach cfg env (step cfg env m)
  | op {m} (o : Ctl) : CleanReach cfg env m → m.ctl = [] → o.isK = false → o.phase? = none → o ≠ .endHand →
      CleanReach cfg env { m with ctl := [o], err := none, warned := false }

theorem CleanReach.reach {m : M} (h : CleanReach cfg env m) : Reach cfg env m := by
  induction h with
  | init => exact .init
  | step _ _ _ _ ih => exact .step ih
  | op o _ hq hk hp he ih => exact .op o ih hq hk hp he

theorem CleanReach.invs (hc : CfgOk cfg) {m : M} (h : CleanReach cfg env m) :
    Ledger cfg m.st ∧ PushInv m.st ∧ PullInv cfg m := by
  induction h with
  | init =>
    refine ⟨C01_init hc env, ?_, pull_init⟩
    intro ps hps; simp [setup] at hps
  | step hr hb hs herr ih =>
    obtain ⟨hL, hPu, hPl⟩ := ih
    exact ⟨C01_step hc _ hL hb herr, C01_push_step hc _ hL hPu hs herr,
      C01_pull_step _ (C07_phase_order hr.reach) hL hPl⟩
  | op o hr hq hk hp he ih =>
    obtain ⟨hL, hPu, hPl⟩ := ih
    refine ⟨hL, hPu, .of_quiet hPl.flagged fun g r hcg => ?_⟩
    cases hcg
    -- the frames of the tail have a phase, but for `endHand`
    cases o <;> first | rfl | exact absurd rfl he | cases hp

theorem C01_end_of_hand (hc : CfgOk cfg) {m : M} (h : CleanReach cfg env m) (rest : List Ctl)
    (hctl : m.ctl = .endHand :: rest) :
    AllZero cfg m.st ∧ ∀ ps, m.st.pots_ = some ps → potTotal ps = 0 := by
  obtain ⟨hL, hPu, hPl⟩ := h.invs hc
  refine ⟨hPl.fin rest hctl, ?_⟩
  intro ps hps
  have hclear : AllClear m.st := (C07_phase_order h.reach).head _ _ hctl
  have hsub : m.st.subPots = [] := by simpa [Phase.flag] using hclear .push
  rw [hPu ps hps, hsub]; rfl

theorem C01_final_zero_sum (hc : CfgOk cfg) {m : M} (h : CleanReach cfg env m) (rest : List Ctl)
    (hctl : m.ctl = .endHand :: rest) (ps : List Pot) (hps : m.st.pots_ = some ps) :
    sumI (step cfg env m).st.payoffs = - sumI (ps.map (·.raked)) := by
  obtain ⟨hz, hp⟩ := C01_end_of_hand hc h rest hctl
  obtain ⟨hL, _, _⟩ := h.invs hc
  rw [show (step cfg env m).st.payoffs = m.st.payoffs from step_view (·.payoffs) hctl fun _ _ => rfl]
  apply C01_zero_sum hL ps hps
  · rw [← sumI_range_getI m.st.bets cfg.n hL.lenBets]
    rw [sumI_map_congr (List.range cfg.n) _ (fun _ => 0) (fun i hi => hz i (List.mem_range.1 hi)), sumI_map_zero]
  · exact hp ps hps

end PK
