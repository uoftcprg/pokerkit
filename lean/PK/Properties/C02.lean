/-
  C02 — Every pot goes to the best eligible live hand(s), in the right amounts.

  Theorems about the model of `pots`, `_begin_chips_pushing` and `push_chips`
  (for every strength function `env.eval`, i.e. for every deal):

  * `C02_eligible`        who may win a pot: the list of eligible players that `pots` gives a pot
                          (`levelPlayers`) holds exactly the players still in the hand whose
                          contribution reaches the pot's level
  * `C02_winners_best`    a multi-way sub-pot (pot × board × hand type) is shared by exactly the
                          eligible players whose hand equals the maximum among the eligible players
  * `C02_only_winners_paid`  nobody else receives a chip from it — in particular no player who
                          folded, mucked or was killed
  * `C02_split`           the winners share it equally, the odd chips going to the first winner
                          in seat order; the shares add up to the sub-pot
  * `C02_lone`            a lone survivor takes every pot whole

  That the sub-pots queued for a pot add up to what is unraked in it is `subPotsOfPot_sum`
  (Proofs/PushSum); that what is queued and what the frozen pots hold stay equal in total
  while they are pushed out is `C01_push_step` (Properties/C01End).
  Hand strengths are a parameter here; that the strength the engine uses is the best legal
  hand is C05, that the order on hands is the rules' order is C04.  "Nobody wins from an
  opponent more than he put in" is `C02_capped` (Properties/C02Capped).
-/
import PK.Proofs.LedgerStep
namespace PK
open State M

variable {cfg : Config} {env : Env}

/-- order on optional strengths: no hand is below every hand -/
def optLe : Option Int → Option Int → Prop
  | none, _ => True
  | some _, none => False
  | some a, some b => a ≤ b

theorem maxOrNone_ge (l : List (Option Int)) : ∀ x ∈ l, optLe x (maxOrNone l) := by
  intro x hx
  cases x with
  | none => trivial
  | some a =>
    have ha : a ∈ l.filterMap id := List.mem_filterMap.2 ⟨_, hx, rfl⟩
    rw [maxOrNone_eq_max?]
    cases hm : (l.filterMap id).max? with
    | none => rw [List.max?_eq_none_iff.1 hm] at ha; cases ha
    | some m => exact (List.max?_eq_some_iff.1 hm).2 a ha

theorem C02_eligible (s : State) (pending : List Int) (v : Int) (i : Nat) :
    i ∈ levelPlayers cfg s pending v ↔
      i < cfg.n ∧ getI pending i ≥ v ∧ getB s.statuses i = true := by
  unfold levelPlayers playerIndices
  simp [List.mem_filter]

theorem C02_winners_best {s s' : State} {ps : List Pot} {sp : SubPot} {sps : List SubPot}
    {op : Operation} (hmulti : s.liveCount ≠ 1)
    (hpush : pushChips cfg env s ps sp sps = .ok (s', op)) :
    ∃ pot b k hands q r,
      ps[sp.pot]? = some pot ∧ sp.board = some b ∧ sp.handType = some k ∧
      s.getUpHands cfg env b k = .ok hands ∧
      let winners := pot.players.filter fun i =>
        hands.getD i none == maxOrNone (pot.players.map fun i => hands.getD i none)
      State.divmod cfg sp.amount winners.length = .ok (q, r) ∧
      s'.bets = awardShares winners q r s.bets ∧
      (∀ i ∈ winners, i ∈ pot.players ∧ getB s.statuses i = true ∧
        ∀ j ∈ pot.players, optLe (hands.getD j none) (hands.getD i none)) := by
  obtain ⟨pot, bets, hpot, -, rfl, -, h | h⟩ := pushChips_ok hpush
  · exact absurd h.1 hmulti
  · obtain ⟨-, b, k, hands, q, r, hb, hk, -, -, hhands, hdm, hlive, rfl⟩ := h
    refine ⟨pot, b, k, hands, q, r, hpot, hb, hk, hhands, hdm, rfl, fun i hi => ?_⟩
    obtain ⟨hip, heq⟩ := List.mem_filter.1 hi
    refine ⟨hip, hlive i hi, fun j hj => ?_⟩
    rw [eq_of_beq heq]
    exact maxOrNone_ge _ _ (List.mem_map.2 ⟨j, hj, rfl⟩)

/-- whatever `winners` is: `hnd` and `hlt` are not needed -/
theorem C02_only_winners_paid (winners : List Nat) (q r : Int) (bets : List Int)
    (hnd : winners.Nodup) (hlt : ∀ i ∈ winners, i < bets.length) (j : Nat) (hj : j ∉ winners) :
    getI (awardShares winners q r bets) j = getI bets j :=
  getI_foldl_set_of_not_mem _ winners bets j hj

theorem C02_split (winners : List Nat) (q r amount : Int) (bets : List Int)
    (hnd : winners.Nodup) (hlt : ∀ i ∈ winners, i < bets.length)
    (hdm : State.divmod cfg amount winners.length = .ok (q, r)) :
    (∀ i ∈ winners, getI (awardShares winners q r bets) i
        = getI bets i + (if some i == winners.head? then q + r else q)) ∧
    sumI (awardShares winners q r bets) = sumI bets + amount := by
  have hne : winners ≠ [] := fun e => divmod_ne_zero hdm (by rw [e]; rfl)
  have hs := addShares_spec (fun i => if some i == winners.head? then q + r else q) winners bets hnd hlt
  refine ⟨?_, ?_⟩
  · intro i hi
    unfold awardShares
    rw [hs.2.2 i]; simp [hi]
  · unfold awardShares
    rw [hs.2.1, shares_sum winners q r hnd hne]
    have := (divmod_spec hdm).1
    omega

theorem C02_lone {s s' : State} {ps : List Pot} {sp : SubPot} {sps : List SubPot} {op : Operation}
    (hlone : s.liveCount = 1) (hpush : pushChips cfg env s ps sp sps = .ok (s', op)) :
    ∃ pot w, ps[sp.pot]? = some pot ∧ pot.players = [w] ∧
      s'.bets = s.bets.set w (getI s.bets w + sp.amount) := by
  obtain ⟨pot, bets, hpot, -, rfl, -, h | h⟩ := pushChips_ok hpush
  · obtain ⟨-, -, -, w, hw, rfl⟩ := h
    exact ⟨pot, w, hpot, hw, rfl⟩
  · exact absurd hlone h.1

end PK
