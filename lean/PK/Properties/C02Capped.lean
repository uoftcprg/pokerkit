/-
  C02, capped winnings — **nobody wins from an opponent more than he himself put in**.

  `C02_capped`: when `pots` succeeds, the pots a player still in the hand is eligible for add up to at most what
  was carried into the first pot (the antes, when they are not trimmed) plus, from every player `j`, the part of
  `j`'s contribution that does not exceed the player's own: `min(c_j, P_i)`.  What a player wins comes out of pots
  he is eligible for only (`C02_push_eligible_only` below: a push changes the bet of nobody outside the pot's
  eligible players; `C02_split`: the shares of a push add up to the sub-pot; `subPotsOfPot_sum`: the sub-pots
  queued for a pot add up to what is unraked in it), so this bounds his winnings.

  How: the loop of `pots` over the contribution levels is followed for the pots that have the player among their
  eligible players (`foldl_potsStep` of Proofs/Pots, which treats all pots and one player's pots alike; merging of
  pots with the same eligible players does not matter: `popSame_potsOn`).  He is eligible exactly at the levels up
  to what he put in, and these come first (`fold_prefix`); `layers_prefix` — those layers add up, over all
  contributors, to every contribution counted up to the last such level.
-/
import PK.Properties.C02
namespace PK
open State M

variable (cfg : Config)

/-- the pots (in a reversed pot list) that player `i` is eligible for, added up -/
def elig (i : Nat) (rp : List Pot) : Int := potsTotal (rp.filter fun p => p.players.contains i)

theorem elig_eq_potsOn (i : Nat) (rp : List Pot) : elig i rp = potsOn (·.contains i) rp := rfl

theorem elig_nil (i : Nat) : elig i [] = 0 := rfl

theorem popSame_elig (i : Nat) (players : List Nat) (rp : List Pot) (amount : Int) :
    (players.contains i = true →
      elig i (popSame players rp amount).1 + (popSame players rp amount).2 = elig i rp + amount) ∧
    (players.contains i = false → elig i (popSame players rp amount).1 = elig i rp) := by
  have h := popSame_potsOn (·.contains i) players rp amount
  constructor
  · intro hc
    simpa only [elig_eq_potsOn, hc, if_true] using h
  · intro hc
    simpa only [elig_eq_potsOn, hc, Bool.false_eq_true, if_false, Int.add_zero] using h

theorem fold_prefix (s : State) (cs pending : List Int) (hcs : cs.length = cfg.n) (i : Nat)
    (hi : i < cfg.n) (hlive : getB s.statuses i = true) :
    ∀ (vs : List Int), StrictSorted vs → ∀ (rp : List Pot) (amount prev : Int) (rp' : List Pot)
      (amount' prev' : Int),
    vs.foldl (potsStep cfg s cs pending) (.ok (rp, amount, prev)) = .ok (rp', amount', prev') →
    (vs.filter (fun v => decide (v ≤ getI pending i)) = [] → elig i rp' = elig i rp) ∧
    (vs.filter (fun v => decide (v ≤ getI pending i)) ≠ [] →
      elig i rp' = elig i rp + amount + layers cs prev (vs.filter (fun v => decide (v ≤ getI pending i)))) := by
  intro vs hs rp amount prev rp' amount' prev' h
  have hel (v : Int) : (levelPlayers cfg s pending v).contains i = decide (v ≤ getI pending i) := by
    rw [Bool.eq_iff_iff, List.contains_iff_mem, C02_eligible, decide_eq_true_eq]
    simp only [hi, hlive, true_and, and_true, ge_iff_le]
  obtain ⟨g1, g2, -⟩ := foldl_potsStep (·.contains i) _ hcs
    (fun v w hvw hw => decide_eq_true (Int.le_trans hvw (of_decide_eq_true hw))) hs (fun v _ => hel v) h
  exact ⟨g1, g2⟩

theorem fold_capped {s : State} {cs pending : List Int} (hcs : cs.length = cfg.n) {i : Nat}
    (hi : i < cfg.n) (hlive : getB s.statuses i = true) (hnn : ∀ c ∈ cs, 0 ≤ c) {dead : Int} (hdead : 0 ≤ dead)
    {rp : List Pot} {a pv : Int}
    (h : (sortedSet cs).foldl (potsStep cfg s cs pending) (.ok ([], dead, 0)) = .ok (rp, a, pv)) :
    elig i rp ≤ dead + sumI (cs.map fun c => max (min c (getI pending i)) 0) := by
  have hsum0 := sumI_map_nonneg cs (fun c => max (min c (getI pending i)) 0) (fun _ _ => by omega)
  obtain ⟨f1, f2⟩ := fold_prefix cfg s cs pending hcs i hi hlive _ (strictSorted_sortedSet cs) _ _ _ _ _ _ h
  generalize hws : (sortedSet cs).filter (fun v => decide (v ≤ getI pending i)) = ws at f1 f2
  have hsub : ∀ w ∈ ws, w ∈ cs ∧ w ≤ getI pending i := fun w hw => by
    obtain ⟨h1, h2⟩ := List.mem_filter.1 (hws ▸ hw)
    exact ⟨(mem_sortedSet cs w).1 h1, by simpa using h2⟩
  by_cases hnil : ws = []
  · rw [f1 hnil, elig_nil]; omega
  · have hL : ws.getLastD 0 ≤ getI pending i := by
      rw [List.getLastD_eq_getLast?, List.getLast?_eq_some_getLast hnil]
      exact (hsub _ (List.getLast_mem hnil)).2
    rw [f2 hnil, elig_nil, layers_prefix cs ws 0 (fun w hw => hnn w (hsub w hw).1)
      (hws ▸ (strictSorted_sortedSet cs).sublist List.filter_sublist)]
    · have := sumI_map_le cs (fun c => max (min c (ws.getLastD 0) - 0) 0)
        (fun c => max (min c (getI pending i)) 0) (fun _ _ => by omega)
      omega
    · intro c hc
      by_cases hcp : c ≤ getI pending i
      · exact .inr (.inl (hws ▸ List.mem_filter.2 ⟨(mem_sortedSet cs c).2 hc, by simpa using hcp⟩))
      · exact .inr (.inr fun w hw => by have := (hsub w hw).2; omega)

/-- `hp` and `hb` are not needed.  Of `potsInputs`, `.1` is the amount carried into the first pot, `.2.1` the
    `contributions` of `pots` (`c_j`: chips already collected) and `.2.2` its `pending_contributions` (`P_i`: the
    same with the bets in front counted in), both without the antes when these are not trimmed. -/
theorem C02_capped (s : State) (ps : List Pot) (hp : s.payoffs.length = cfg.n) (hb : s.bets.length = cfg.n)
    (hnone : s.pots_ = none) (h : s.pots cfg = .ok ps) (i : Nat) (hi : i < cfg.n)
    (hlive : getB s.statuses i = true) (hnn : ∀ c ∈ (potsInputs cfg s).2.1, 0 ≤ c)
    (hdead : 0 ≤ (potsInputs cfg s).1) :
    elig i ps ≤ (potsInputs cfg s).1 +
      sumI ((potsInputs cfg s).2.1.map fun c => max (min c (getI (potsInputs cfg s).2.2 i)) 0) := by
  rcases pots_cases hnone h with ⟨-, rfl⟩ | ⟨-, rp, a, pv, rfl, hfold⟩
  · exact Int.add_nonneg hdead (sumI_map_nonneg _ _ fun _ _ => by omega)
  · rw [elig_eq_potsOn, potsOn_reverse]
    exact fold_capped cfg (potsInputs_length cfg s) hi hlive hnn hdead hfold

variable {cfg} {env : Env}

/-- `hok` and `hlen` are not needed -/
theorem C02_push_eligible_only {s s' : State} {ps : List Pot} {sp : SubPot} {sps : List SubPot} {op : Operation}
    (hpush : pushChips cfg env s ps sp sps = .ok (s', op)) (pot : Pot) (hpot : ps[sp.pot]? = some pot)
    (hok : PotOk cfg.n pot) (hlen : s.bets.length = cfg.n) (j : Nat) (hj : j ∉ pot.players) :
    getI s'.bets j = getI s.bets j := by
  obtain ⟨pot', bets, hpot', -, rfl, -, h | h⟩ := pushChips_ok hpush
  all_goals cases hpot.symm.trans hpot'
  · obtain ⟨-, -, -, w, hw, rfl⟩ := h
    exact getI_set_ne _ _ _ _ fun e => hj (by simp [hw, e])
  · obtain ⟨-, b, k, hands, q, r, -, -, -, -, -, -, -, rfl⟩ := h
    exact getI_foldl_set_of_not_mem _ _ _ j fun hm => hj (List.mem_filter.1 hm).1

end PK
