/-
  C02 ∘ C05 ∘ C04 — **the pot goes to the player who can make the best five cards under the rules of
  poker**.  `C02_winners_best` says a contested sub-pot is shared by the eligible players whose hand
  strength is maximal, for any strength function; `tableEval` is the strength function of the code
  (`hand_type.from_game(hole, board)` compared as `Hand.__lt__` compares); `C05_best_by_rules` and
  `C04_standard_table` say what that strength means.  Together, for a high-hand game evaluated by
  `StandardHighHand` (Texas hold'em, seven card stud, five card draw):

  * `C02_best_five_wins`   if player `i` is paid from a contested sub-pot, then no eligible player still in
                           the hand can make — from his shown cards and the board of that sub-pot — five
                           cards that rank strictly above the best five of player `i`.
-/
import PK.Properties.C02
import PK.Properties.C05Rules
import PK.Proofs.Select
namespace PK
open PK.Spec PK.TableCheck State M

variable {cfg : Config} {env : Env}

/-- what a live player's entry of `get_up_hands` is, in a `StandardHighHand` game with the code's tables:
    the strength of the best five of his cards (`C05_best_by_rules`) -/
theorem upHand_standard (henv : env.eval = tableEval Tables.build) (s : State) (b k i : Nat)
    (hht : cfg.handTypes[k]? = some .standardHigh) (hlive : getB s.statuses i = true)
    (hd : DeckCards (s.upCards i ++ s.getBoardCards cfg b))
    (hlen : 5 ≤ (s.upCards i ++ s.getBoardCards cfg b).length) :
    ∃ h, fromGameCombination Tables.build .standardHigh (s.upCards i) (s.getBoardCards cfg b) = .ok h ∧
      s.getUpHand cfg env i b k = .ok (some (score .standardHigh h)) ∧ FiveCards h.cards ∧
      ∀ c : List Card, c.Sublist (s.upCards i ++ s.getBoardCards cfg b) → c.length = 5 →
        lexLt (standardKeyOf h.cards) (standardKeyOf c) = false := by
  obtain ⟨h, hres, hs, hl, hbest⟩ := C05_best_by_rules .standardHigh (Or.inl rfl) _ _ hd hlen
  refine ⟨h, hres, ?_, hd.five hs hl, hbest⟩
  unfold State.getUpHand
  simp only [hlive, Bool.not_true, Bool.false_eq_true, if_false, hht, henv, tableEval, fromGame,
    HandType.kind, hres]

theorem C02_best_five_wins (henv : env.eval = tableEval Tables.build)
    {s s' : State} {ps : List Pot} {sp : SubPot} {sps : List SubPot} {op : Operation}
    (hmulti : s.liveCount ≠ 1) (hpush : pushChips cfg env s ps sp sps = .ok (s', op)) :
    ∃ pot b k hands q r,
      ps[sp.pot]? = some pot ∧ sp.board = some b ∧ sp.handType = some k ∧
      s.getUpHands cfg env b k = .ok hands ∧
      let winners := pot.players.filter fun i =>
        hands.getD i none == maxOrNone (pot.players.map fun i => hands.getD i none)
      State.divmod cfg sp.amount winners.length = .ok (q, r) ∧
      s'.bets = awardShares winners q r s.bets ∧
      (cfg.handTypes[k]? = some .standardHigh →
       ∀ i ∈ winners, i < cfg.n →
        DeckCards (s.upCards i ++ s.getBoardCards cfg b) → 5 ≤ (s.upCards i ++ s.getBoardCards cfg b).length →
        ∃ hi, fromGameCombination Tables.build .standardHigh (s.upCards i) (s.getBoardCards cfg b) = .ok hi ∧
          ∀ j ∈ pot.players, j < cfg.n → getB s.statuses j = true →
            DeckCards (s.upCards j ++ s.getBoardCards cfg b) →
            ∀ c : List Card, c.Sublist (s.upCards j ++ s.getBoardCards cfg b) → c.length = 5 →
              lexLt (standardKeyOf hi.cards) (standardKeyOf c) = false) := by
  obtain ⟨pot, b, k, hands, q, r, h1, h2, h3, h4, h5, h6, h7⟩ := C02_winners_best hmulti hpush
  refine ⟨pot, b, k, hands, q, r, h1, h2, h3, h4, h5, h6, ?_⟩
  intro hht i hi hin hdi hleni
  obtain ⟨_, hlivei, hmax⟩ := h7 i hi
  obtain ⟨hh, hresi, hupi, fi, _⟩ := upHand_standard henv s b k i hht hlivei hdi hleni
  refine ⟨hh, hresi, ?_⟩
  intro j hj hjn hlivej hdj c hcs hcl
  have hlenj : 5 ≤ (s.upCards j ++ s.getBoardCards cfg b).length := by
    have := hcs.length_le; omega
  obtain ⟨hj', hresj, hupj, fj, hbestj⟩ := upHand_standard henv s b k j hht hlivej hdj hlenj
  obtain ⟨hlen, hget⟩ := mapExcept_getElem? _ _ _ h4
  have entry : ∀ x, x < cfg.n → ∀ v, s.getUpHand cfg env x b k = .ok v → hands.getD x none = v := by
    intro x hx v hv
    obtain ⟨y, hy, hg⟩ := hget x (by simpa [playerIndices] using hx)
    simp only [playerIndices, List.getElem_range] at hy
    rw [hv] at hy; cases hy
    simp [List.getD, hg]
  have hle := hmax j hj
  rw [entry i hin _ hupi, entry j hjn _ hupj] at hle
  -- table order is the order of the rules; the hands returned are the hands of their own cards
  obtain ⟨x, y, hx, hy, _, hlt, _⟩ := C04_standard_table .standardHigh rfl hh.cards hj'.cards fi fj
  cases (fromGameCombination_self (fun c hc => (hdi.known c hc).1) hresi).symm.trans hx
  cases (fromGameCombination_self (fun c hc => (hdj.known c hc).1) hresj).symm.trans hy
  have hnot : lexLt (standardKeyOf hh.cards) (standardKeyOf hj'.cards) = false :=
    Bool.eq_false_iff.2 fun hl2 => Int.not_lt.2 hle ((C04_high_score .standardHigh rfl hh hj').2 (hlt.2 hl2))
  -- `c` is not above `j`'s best five, which is not above `i`'s
  have hnb := hbestj c hcs hcl
  rw [lexLt_eq_false] at *
  exact List.le_trans hnb hnot

end PK
