/-
  C03 — Betting follows the rules: whose turn, which actions, which amounts.

  The rules are stated here as explicit formulas and proved to be what the model's verifiers
  compute, for every state and every candidate amount:

  * `C03_call_amount`      check/call costs min(stack, amount to match)
  * `C03_fold_*`           a player facing a bet may always fold; folding without facing one is refused in
                           tournaments, warned in cash games (refused when warnings are errors)
  * `C03_bring_in_first`   while the bring-in is pending folding and checking/calling are refused, posting it is
                           admitted
  * `C03_min_amount`       the minimum raise-to amount: the larger of the street minimum and the largest raise so
                           far, on top of the bet to match (not when completing a bring-in), or all-in for less
  * `C03_fixed_limit` / `C03_no_limit` / `C03_pot_limit`   the maximum per structure: the minimum itself / the whole
                           stack / the pot-sized raise (never below the minimum, never above the stack)
  * `C03_range`            an amount is accepted iff it lies between these bounds (and a raise is admissible);
                           `None` means the minimum
  * `C03_cap`, `C03_covered`, `C03_nobody`, `C03_short_all_in`   when no raise is admissible: the street's cap is
                           reached; the bet to match covers the player; nobody else could call more; after an all-in
                           raise smaller than a full raise, a player who has acted since the last full raise
                           (`C03_full_all_ins_reopen`: all-in raises that add up to a full raise, or a single full
                           one, re-open the betting — WSOP rule 96)
  * `verifyCbr0_ok`        conversely, what an admitted raiser has passed
  * `C03_raise_bookkeeping`   how a raise re-opens the action and updates the history summary (largest raise,
                           who has acted since); `opCbr_cases`: otherwise the operation ends in an exception

  Over whole histories: the invariant of the queue of players still to act (whose turn it is, when a round
  may end) is in Properties/C03Round.  What is *not* proved, here or there, is the refinement of the
  bookkeeping fields (largest raise, who has acted, run of all-in raises) to a fold over the whole round
  history for every reachable state (DESIGN §6 C03_refines); that relation is checked on every betting
  decision of every trace by the history-based monitor (harness/monitors.py C03).
-/
import PK.Proofs.Ledger
import PK.Proofs.Control
namespace PK
open State M

variable {cfg : Config} {env : Env}

theorem C03_call_amount {s : State} {amount : Int} {p : Nat} {rest : List Nat}
    (h1 : s.checkingOrCallingAmount = .ok (some amount)) (h2 : s.actors = p :: rest) :
    amount = min (getI s.stacks p) (maxI s.bets - getI s.bets p) := by
  unfold State.checkingOrCallingAmount at h1
  split at h1
  · cases h1
  · split at h1
    · cases h1
    · cases h1
    · next q hq =>
      cases actorIndex_cons h2 hq
      cases h1
      rfl

theorem C03_fold_tournament {s : State} {p : Nat} {rest : List Nat} (ht : cfg.tournament = true)
    (ha : s.actors = p :: rest) (hs : getI s.stacks p ≠ 0) (hb : s.bringInStatus = false)
    (hnb : getI s.bets p ≥ maxI s.bets) : (s.verifyFolding cfg).toOption = none := by
  unfold State.verifyFolding State.actorIndex
  simp [ha, hb, hs, hnb, ht, Except.toOption]

theorem C03_fold_facing_bet {s : State} {p : Nat} {rest : List Nat}
    (ha : s.actors = p :: rest) (hs : getI s.stacks p ≠ 0) (hb : s.bringInStatus = false)
    (hnb : getI s.bets p < maxI s.bets) : ∃ v, s.verifyFolding cfg = .ok v ∧ v.warned = false := by
  unfold State.verifyFolding State.actorIndex
  have : ¬ getI s.bets p ≥ maxI s.bets := by omega
  simp [ha, hb, hs, this]

theorem C03_fold_cash {s : State} {p : Nat} {rest : List Nat} (ht : cfg.tournament = false)
    (ha : s.actors = p :: rest) (hs : getI s.stacks p ≠ 0) (hb : s.bringInStatus = false)
    (hnb : getI s.bets p ≥ maxI s.bets) :
    s.verifyFolding cfg = (if cfg.warnErr then .error .userWarning else .ok ⟨(), true⟩) := by
  unfold State.verifyFolding State.actorIndex warnOr
  simp [ha, hb, hs, hnb, ht]

theorem C03_bring_in_first {s : State} (hne : s.actors ≠ []) (hb : s.bringInStatus = true) :
    (s.verifyFolding cfg).toOption = none ∧ s.verifyCheckingOrCalling = .error .valueError ∧
    s.verifyBringInPosting = .ok () := by
  cases ha : s.actors with
  | nil => exact absurd ha hne
  | cons p rest =>
    unfold State.verifyFolding State.verifyCheckingOrCalling State.verifyBringInPosting
    simp [ha, hb, Except.toOption]

theorem C03_min_amount {s : State} {p : Nat} {st : Street} {eff : Int}
    (hv : s.verifyCbr0 cfg = .ok p) (hst : s.street cfg = some st)
    (he : s.effectiveStack cfg p = .ok eff) :
    s.minCbrTo cfg = .ok (some (min (eff + getI s.bets p)
      (max s.cbrAmount st.minBet + (if s.completionStatus then 0 else maxI s.bets)))) := by
  unfold State.minCbrTo
  simp only [hv, hst, he]
  congr 3
  split <;> simp_all

theorem C03_fixed_limit {s : State} {p : Nat} {mn : Int} (hfl : cfg.structure_ = .fixedLimit)
    (hv : s.verifyCbr0 cfg = .ok p) (hm : s.minCbrTo cfg = .ok (some mn))
    (hle : mn ≤ getI s.stacks p + getI s.bets p) : s.maxCbrTo cfg = .ok (some mn) := by
  unfold State.maxCbrTo
  simp [hv, hfl, hm, hle]

theorem C03_no_limit {s : State} {p : Nat} (hnl : cfg.structure_ = .noLimit)
    (hv : s.verifyCbr0 cfg = .ok p) :
    s.maxCbrTo cfg = .ok (some (getI s.stacks p + getI s.bets p)) := by
  unfold State.maxCbrTo
  simp [hv, hnl]

theorem C03_pot_limit {s : State} {p : Nat} {mn tp : Int} (hpl : cfg.structure_ = .potLimit)
    (hv : s.verifyCbr0 cfg = .ok p) (hm : s.minCbrTo cfg = .ok (some mn))
    (ht : s.totalPotAmount cfg = .ok tp) :
    s.maxCbrTo cfg = .ok (some (min (getI s.stacks p + getI s.bets p)
      (max mn (2 * maxI s.bets - getI s.bets p + tp)))) := by
  unfold State.maxCbrTo State.potCbrTo
  simp only [hv, hpl, hm, ht]
  have : min (getI s.stacks p + getI s.bets p) (max mn (2 * maxI s.bets - getI s.bets p + tp))
      ≤ getI s.stacks p + getI s.bets p := by omega
  simp [this]

theorem C03_range {s : State} {p : Nat} {mn mx : Int} (hv : s.verifyCbr0 cfg = .ok p)
    (hmn : s.minCbrTo cfg = .ok (some mn)) (hmx : s.maxCbrTo cfg = .ok (some mx))
    (amount : Option Int) :
    s.verifyCbr cfg amount =
      (if amount.getD mn < mn then .error .valueError
       else if amount.getD mn > mx then .error .valueError else .ok (amount.getD mn)) := by
  unfold State.verifyCbr
  simp [hv, hmn, hmx]

/-- the admissibility test of a bet/raise, written out: cap, short-all-in rule, covered,
    nobody-can-call-more — in this order -/
theorem C03_admissible {s : State} {p : Nat} {rest : List Nat} {st : Street}
    (ha : s.actors = p :: rest) (hs : getI s.stacks p ≠ 0) (hst : s.street cfg = some st) :
    s.verifyCbr0 cfg =
      (if (match st.maxCount with | some c => s.cbrCount == c | none => false) then .error .valueError
       else if !s.consecAllIn.isEmpty && sumI s.consecAllIn < s.cbrAmount && s.acted.contains p
         then .error .valueError
       else if getI s.stacks p ≤ maxI s.bets - getI s.bets p then .error .valueError
       else if !((playerIndices cfg).any fun i =>
           i != p && getB s.statuses i && getI s.stacks i + getI s.bets i > maxI s.bets)
         then .error .valueError
       else .ok p) := by
  unfold State.verifyCbr0 State.actorIndex
  simp only [ha, List.isEmpty_cons, hst]
  have hs' : (getI s.stacks p == 0) = false := by simpa using hs
  simp only [hs', Bool.false_eq_true, if_false]
  rfl

theorem C03_cap {s : State} {p : Nat} {rest : List Nat} {st : Street} {c : Int}
    (ha : s.actors = p :: rest) (hs : getI s.stacks p ≠ 0)
    (hst : s.street cfg = some st) (hc : st.maxCount = some c) (hcount : s.cbrCount = c) :
    s.verifyCbr0 cfg = .error .valueError := by
  rw [C03_admissible ha hs hst]; simp [hc, hcount]

theorem C03_covered {s : State} {p : Nat} {rest : List Nat} {st : Street}
    (ha : s.actors = p :: rest) (hs : getI s.stacks p ≠ 0) (hst : s.street cfg = some st)
    (hcov : getI s.stacks p ≤ maxI s.bets - getI s.bets p) :
    s.verifyCbr0 cfg = .error .valueError := by
  rw [C03_admissible ha hs hst]
  simp only [hcov, if_true, ite_self]

theorem C03_nobody {s : State} {p : Nat} {rest : List Nat} {st : Street}
    (ha : s.actors = p :: rest) (hs : getI s.stacks p ≠ 0) (hst : s.street cfg = some st)
    (hno : ∀ i, i < cfg.n → i ≠ p → getB s.statuses i = true →
      getI s.stacks i + getI s.bets i ≤ maxI s.bets) :
    s.verifyCbr0 cfg = .error .valueError := by
  rw [C03_admissible ha hs hst]
  have hany : ((playerIndices cfg).any fun i =>
      i != p && getB s.statuses i && decide (getI s.stacks i + getI s.bets i > maxI s.bets)) = false := by
    refine List.any_eq_false.2 fun i hi => ?_
    simp only [Bool.and_eq_true, bne_iff_ne, decide_eq_true_eq, not_and, Int.not_lt, and_imp]
    exact hno i (List.mem_range.1 hi)
  simp only [hany, Bool.not_false, if_true, ite_self]

theorem C03_short_all_in {s : State} {p : Nat} {rest : List Nat} {st : Street}
    (ha : s.actors = p :: rest) (hs : getI s.stacks p ≠ 0) (hst : s.street cfg = some st)
    (hne : s.consecAllIn ≠ []) (hsum : sumI s.consecAllIn < s.cbrAmount) (hact : p ∈ s.acted) :
    s.verifyCbr0 cfg = .error .valueError := by
  rw [C03_admissible ha hs hst]
  have h1 : (!s.consecAllIn.isEmpty && decide (sumI s.consecAllIn < s.cbrAmount) && s.acted.contains p) = true := by
    simp [hne, hsum, hact]
  simp only [h1, if_true, ite_self]

theorem C03_full_all_ins_reopen {s : State} {p : Nat} {rest : List Nat} {st : Street}
    (ha : s.actors = p :: rest) (hs : getI s.stacks p ≠ 0) (hst : s.street cfg = some st)
    (hsum : s.cbrAmount ≤ sumI s.consecAllIn) :
    s.verifyCbr0 cfg =
      (if (match st.maxCount with | some c => s.cbrCount == c | none => false) then .error .valueError
       else if getI s.stacks p ≤ maxI s.bets - getI s.bets p then .error .valueError
       else if !((playerIndices cfg).any fun i =>
           i != p && getB s.statuses i && getI s.stacks i + getI s.bets i > maxI s.bets)
         then .error .valueError
       else .ok p) := by
  rw [C03_admissible ha hs hst]
  have h1 : (!s.consecAllIn.isEmpty && decide (sumI s.consecAllIn < s.cbrAmount) && s.acted.contains p) = false := by
    have : decide (sumI s.consecAllIn < s.cbrAmount) = false := by simp; omega
    simp [this]
  simp only [h1, Bool.false_eq_true, if_false]

theorem C03_refuses_all {s : State} {e : Err} (h : s.verifyCbr0 cfg = .error e) (a : Option Int) :
    s.verifyCbr cfg a = .error e := by
  unfold State.verifyCbr; simp [h]

theorem verifyCbr0_ok {s : State} {p : Nat} (h : s.verifyCbr0 cfg = .ok p) :
    ∃ tail st, s.actors = p :: tail ∧ getI s.stacks p ≠ 0 ∧ s.street cfg = some st ∧
      maxI s.bets - getI s.bets p < getI s.stacks p ∧
      ∃ i, i < cfg.n ∧ i ≠ p ∧ getB s.statuses i = true ∧ maxI s.bets < getI s.stacks i + getI s.bets i := by
  cases ha : s.actors with
  | nil => simp [State.verifyCbr0, ha] at h
  | cons q tail =>
    cases hst : s.street cfg with
    | none => simp [State.verifyCbr0, ha, hst] at h
    | some st =>
      have hs : getI s.stacks q ≠ 0 := fun hs => by
        simp [State.verifyCbr0, State.actorIndex, ha, hst, hs, ite_error_eq_ok] at h
      -- one conjunct per test of the chain, in its order
      simp only [C03_admissible ha hs hst, ite_error_eq_ok] at h
      obtain ⟨-, -, hcov, hany, hq⟩ := h
      cases hq
      simp only [Bool.not_eq_true', Bool.not_eq_false, List.any_eq_true, Bool.and_eq_true, bne_iff_ne,
        decide_eq_true_eq] at hany
      obtain ⟨i, hi, ⟨hip, hsi⟩, hti⟩ := hany
      exact ⟨tail, st, rfl, hs, rfl, by omega, i, List.mem_range.1 hi, hip, hsi, by omega⟩

theorem minCbrTo_ok {s : State} {p : Nat} {st : Street} {mn : Int} (hv : s.verifyCbr0 cfg = .ok p)
    (hst : s.street cfg = some st) (hm : s.minCbrTo cfg = .ok (some mn)) :
    ∃ eff, s.effectiveStack cfg p = .ok eff ∧ mn = min (eff + getI s.bets p)
      (max s.cbrAmount st.minBet + (if s.completionStatus then 0 else maxI s.bets)) := by
  cases he : s.effectiveStack cfg p with
  | error e => simp [State.minCbrTo, hv, hst, he] at hm
  | ok eff =>
    have := (C03_min_amount hv hst he).symm.trans hm
    simp only [Except.ok.injEq, Option.some.injEq] at this
    exact ⟨eff, rfl, this.symm⟩

/-- the state right after a successful bet/raise to `a` by player `p`, before the round-end test -/
def afterRaise (cfg : Config) (s : State) (p : Nat) (a : Int) : State :=
  let inc := a - maxI s.bets
  let delta := a - getI s.bets p
  let stacks' := s.stacks.set p (getI s.stacks p - delta)
  { s with
    bets := s.bets.set p a
    stacks := stacks'
    payoffs := s.payoffs.set p (getI s.payoffs p - delta)
    bringInStatus := false
    completionStatus := false
    actors := ((rotatedRange cfg.n p).drop 1).filter fun i => getB s.statuses i && getI stacks' i != 0
    openerIndex := some p
    acted := if inc ≥ s.cbrAmount then [p] else insNat p s.acted
    cbrAmount := max s.cbrAmount inc
    cbrCount := s.cbrCount + 1
    consecAllIn := if getI stacks' p != 0 then [] else s.consecAllIn ++ [inc] }

theorem C03_raise_bookkeeping {m : M} {rest : List Ctl} {amount : Option Int}
    (hctl : m.ctl = .opCbr amount :: rest) {a : Int} (hv : m.st.verifyCbr cfg amount = .ok a)
    {p : Nat} {actors : List Nat} (ha : m.st.actors = p :: actors)
    (hne : (afterRaise cfg m.st p a).actors ≠ []) :
    (step cfg env m).st = afterRaise cfg m.st p a ∧
    (step cfg env m).ctl = .updBet (some (.completionBettingOrRaisingTo p a)) false :: rest := by
  rw [step_opCbr_eq hctl, hv, ha]
  dsimp only
  rw [if_neg (by exact fun h => hne (List.isEmpty_iff.1 h))]
  refine ⟨?_, rfl⟩
  -- both sides are the same record once the two tests of `bookRaise` are decided
  by_cases hc : a - maxI m.st.bets ≥ m.st.cbrAmount <;>
    by_cases hd : (getI (m.st.stacks.set p (getI m.st.stacks p - (a - getI m.st.bets p))) p != 0) = true <;>
    simp only [afterRaise, cont_st, State.bookRaise, State.raiseTo, hc, hd, if_true, if_false] <;> rfl

theorem opCbr_cases {m : M} {rest : List Ctl} {amount : Option Int} (hctl : m.ctl = .opCbr amount :: rest) :
    (step cfg env m).halted ∨ ∃ a p tail, m.st.verifyCbr cfg amount = .ok a ∧ m.st.actors = p :: tail ∧
      (afterRaise cfg m.st p a).actors ≠ [] := by
  rw [step_opCbr_eq hctl]
  split
  · exact Or.inl ⟨rfl, _, rfl⟩
  · split
    · exact Or.inl ⟨rfl, _, rfl⟩
    · dsimp only
      split
      · exact Or.inl ⟨rfl, _, rfl⟩
      · exact Or.inr ⟨_, _, _, ‹_›, ‹_›, fun h => ‹¬ _› (List.isEmpty_iff.2 h)⟩

end PK
