/-
  C03 — the betting round over whole histories: whose turn it is, and when a round may end.

  `PK.Properties.C03` states every betting rule as a formula about one state.  This file is about histories:
  for every configuration reachable from `setup` by micro-steps and public operations (refused operations
  included; no escaping internal exception, (f) of C07Live; side conditions (b) of C01 and (g) below),

  * `C03_queue`       the players still to act are in the hand and not all-in, nobody is listed twice, and the
                      list is in clockwise order (a sublist of a rotation of the seats);
  * `C03_waiting`     while somebody is still to act, every *other* player in the hand who is not all-in has
                      matched the largest bet (and no bring-in is pending), or already has in front of him at
                      least what anybody else in the hand could ever put in (he "covers" them: that is when
                      `_begin_betting` leaves a player out of the queue);
  * `C03_round_ends`  when `_update_betting` decides that the round is over, one player is left in the hand, or
                      every player in the hand who is not all-in has matched the largest bet or covers everybody.

  The invariant `RoundInv` is kept by all 56 kinds of micro-step (`round_step`): a step that ends in an exception
  was a refused operation, which leaves the state as it was ((f), used there once); the frames that write none of
  queue / bets / stacks / statuses / bring-in flag by the frame lemma `tv_frame`; `_end_betting` empties the queue; an
  operation of another phase is refused, or finds its own phase at work, and then the phase invariant (C07) says that
  nobody is to act (`round_foreign`); `_begin_betting` builds the queue (`beginBet_core`), a bet or raise rebuilds it
  (`cbr_core`), and fold, check/call and bring-in take the actor off it (`RoundCore.pop`: `fold_core`,
  `RoundCore.transfer`).

  Side condition (g), `CompletesUp`: whenever a bet or raise is attempted while the bring-in may still be completed,
  the first street is being played and nobody has more than the bring-in in front of him (`CompletionBounded`).
  What the invariant needs is that a bet or raise is to at least the largest bet (`RaiseUp`).  For every bet or
  raise but a completion this is proved outright (`raise_up_plain`: the effective stack reaches beyond the largest
  bet because somebody else can still call more, and the minimum raise is on top of the largest bet); for a
  completion it follows from (g) (`raise_up_completion`: the small bet of the first street is above the bring-in).
  (g) itself rests on facts about stud hands that this file does not carry as invariants (no blinds in a bring-in
  game, nobody has more than the bring-in in front while it can be completed); it is decided on the
  implementation's traces by the C03 monitor.  As stated, (g) also speaks of attempts that are refused: after a
  bring-in round nobody completed, `completion_status` stays up until the next `_begin_betting`, so a (refused)
  `complete_bet_or_raise_to` while the next street is dealt is a step (g) excludes from `RoundReach`.
-/
import PK.Proofs.RoundLemmas
import PK.Proofs.Select
import PK.Properties.C07Live
namespace PK
open State M

variable {cfg : Config} {env : Env}

def State.canAct (s : State) (i : Nat) : Bool := getB s.statuses i && getI s.stacks i != 0

/-- nobody else in the hand can ever have more in front of him than `i` already has -/
def Covers (cfg : Config) (s : State) (i : Nat) : Prop :=
  ∀ j, j < cfg.n → j ≠ i → getB s.statuses j = true → getI s.bets j + getI s.stacks j ≤ getI s.bets i

/-- what holds of the actor queue while a betting round is on -/
structure RoundCore (cfg : Config) (s : State) : Prop where
  nodup : s.actors.Nodup
  can : ∀ a ∈ s.actors, a < cfg.n ∧ s.canAct a = true
  clockwise : ∃ o, s.actors.Sublist (rotatedRange cfg.n o)
  matched : ∀ i, i < cfg.n → s.canAct i = true → i ∉ s.actors →
    Covers cfg s i ∨ (getI s.bets i = maxI s.bets ∧ s.bringInStatus = false)

def Settled (cfg : Config) (s : State) (i : Nat) : Prop :=
  Covers cfg s i ∨ (getI s.bets i = maxI s.bets ∧ s.bringInStatus = false)

theorem canAct_iff {s : State} {i : Nat} : s.canAct i = true ↔ getB s.statuses i = true ∧ getI s.stacks i ≠ 0 := by
  simp [State.canAct]

theorem RoundCore.of_tv {s s' : State} (h : tv s' = tv s) (hR : RoundCore cfg s) : RoundCore cfg s' := by
  cases s; cases s'
  cases h
  exact ⟨hR.nodup, hR.can, hR.clockwise, hR.matched⟩

/-- the invariant of a configuration: while somebody is still to act, and when `_update_betting` is about to
    decide whether the round is over, the queue is as `RoundCore` says; the flag `_begin_betting` passes
    is set only for a lone actor who has nothing to call -/
structure RoundInv (cfg : Config) (m : M) : Prop where
  on : m.st.actors ≠ [] → RoundCore cfg m.st
  upd : ∀ op st rest, m.ctl = .updBet op st :: rest →
    RoundCore cfg m.st ∧ (st = true → ∃ a, m.st.actors = [a] ∧ maxI m.st.bets ≤ getI m.st.bets a)

theorem RoundInv.actor {m : M} (hR : RoundInv cfg m) {p : Nat} {tail : List Nat} (ha : m.st.actors = p :: tail) :
    RoundCore cfg m.st ∧ p < cfg.n ∧ m.st.canAct p = true :=
  have core := hR.on (ha ▸ List.cons_ne_nil _ _)
  ⟨core, core.can p (ha ▸ List.mem_cons_self)⟩

theorem RoundInv.of_quiet {m m' : M} (hR : RoundInv cfg m) (ht : tv m'.st = tv m.st)
    (hh : ∀ op st r, m'.ctl ≠ .updBet op st :: r) : RoundInv cfg m' := by
  have h1 : m'.st.actors = m.st.actors := congrArg TV.actors ht
  exact ⟨fun hne => (hR.on (h1 ▸ hne)).of_tv ht, fun op st r hc => absurd hc (hh op st r)⟩

theorem RoundInv.of_empty {m' : M} (ha : m'.st.actors = [])
    (hh : ∀ op st r, m'.ctl ≠ .updBet op st :: r) : RoundInv cfg m' :=
  ⟨fun hne => absurd ha hne, fun op st r hc => absurd hc (hh op st r)⟩

theorem RoundInv.after {m' : M} {op : Option Operation} {rest : List Ctl}
    (hctl : m'.ctl = .updBet op false :: rest) (core : RoundCore cfg m'.st) : RoundInv cfg m' := by
  refine ⟨fun _ => core, fun op' st r hcl => ⟨core, fun ht => ?_⟩⟩
  rw [hctl] at hcl
  cases hcl
  cases ht

def Ctl.callsUpdBet : Ctl → Bool
  | .beginBet | .opFold | .opCall | .opBringIn | .opCbr _ => true
  | _ => false

theorem head_not_updBet (m : M) (hP : PhaseInv cfg m) (f : Ctl) (rest : List Ctl) (hctl : m.ctl = f :: rest)
    (hf : f.callsUpdBet = false) : ∀ op st r, (step cfg env m).ctl ≠ .updBet op st :: r := by
  intro op st r hr
  -- the new top is a continuation that was waiting, or comes by one of the five edges into `_update_betting`
  rcases (step_head (hP.tail f rest hctl) hctl hr).2 with hk | ⟨gs, hp, _⟩
  · cases hk
  · cases hp <;> cases hf

theorem RoundCore.pop {s s' : State} {p : Nat} {tail : List Nat} (hR : RoundCore cfg s) (ha : s.actors = p :: tail)
    (ha' : s'.actors = tail) (hcan : ∀ i, i ≠ p → s'.canAct i = s.canAct i)
    (hp : s'.canAct p = true → Settled cfg s' p) (ho : ∀ i, i ≠ p → Settled cfg s i → Settled cfg s' i) :
    RoundCore cfg s' := by
  have hnd := List.nodup_cons.1 (ha ▸ hR.nodup)
  refine ⟨ha' ▸ hnd.2, fun a hat => ?_, ?_, fun i hi hc hnot => ?_⟩
  · rw [ha'] at hat
    have hap : a ≠ p := fun h => hnd.1 (h ▸ hat)
    rw [hcan a hap]
    exact hR.can a (ha ▸ List.mem_cons_of_mem _ hat)
  · obtain ⟨o, ho⟩ := hR.clockwise
    exact ⟨o, ha' ▸ (List.sublist_cons_self p tail).trans (ha ▸ ho)⟩
  · by_cases hip : i = p
    · exact hip ▸ hp (hip ▸ hc)
    · refine ho i hip (hR.matched i hi (hcan i hip ▸ hc) fun h => ?_)
      rw [ha] at h
      rcases List.mem_cons.1 h with h | h
      · exact hip h
      · exact hnot (ha' ▸ h)

theorem fold_core {s s2 : State} {p : Nat} {tail acted : List Nat} (ha : s.actors = p :: tail)
    (hm : ({ s with actors := tail, acted := acted } : State).muckHoleCards p = .ok s2)
    (hR : RoundCore cfg s) : RoundCore cfg s2 := by
  rw [muckHoleCards_ok hm]
  refine hR.pop ha rfl (fun i hip => ?_) (fun hc => ?_) (fun i hip h => Or.imp_left (fun hcov j hj hji hst => ?_) h)
  · simp [State.canAct, getB_set_false, bne_iff_ne.2 hip]
  · simp [State.canAct, getB_set_false] at hc
  · simp only [getB_set_false, Bool.and_eq_true] at hst
    exact hcov j hj hji hst.1

theorem total_transfer (s : State) (p : Nat) (a : Int) (j : Nat) (hb : p < s.bets.length) (hs : p < s.stacks.length) :
    getI (s.bets.set p (getI s.bets p + a)) j + getI (s.stacks.set p (getI s.stacks p - a)) j =
      getI s.bets j + getI s.stacks j := by
  by_cases h : p = j
  · subst h; rw [getI_set_eq _ _ _ hb, getI_set_eq _ _ _ hs]; omega
  · rw [getI_set_ne _ _ _ _ h, getI_set_ne _ _ _ _ h]

theorem RoundCore.transfer {s s' : State} {p : Nat} {tail : List Nat} {a : Int} (hR : RoundCore cfg s)
    (ha : s.actors = p :: tail) (hlb : s.bets.length = cfg.n) (hls : s.stacks.length = cfg.n)
    (hact : s'.actors = tail) (hst : s'.statuses = s.statuses)
    (hbets : s'.bets = s.bets.set p (getI s.bets p + a)) (hstacks : s'.stacks = s.stacks.set p (getI s.stacks p - a))
    (hbr : s'.bringInStatus = false) (hp : getI s.stacks p - a ≠ 0 → getI s.bets p + a = maxI s'.bets)
    (hmax : s.bringInStatus = false → maxI s'.bets = maxI s.bets) : RoundCore cfg s' := by
  have hpn : p < cfg.n := (hR.can p (ha ▸ List.mem_cons_self)).1
  refine hR.pop ha hact (fun i hip => ?_) (fun hc => Or.inr ⟨?_, hbr⟩) (fun i hip h => ?_)
  · unfold State.canAct
    rw [hst, hstacks, getI_set_ne _ _ _ _ (Ne.symm hip)]
  · have hc := (canAct_iff.1 hc).2
    rw [hstacks, getI_set_eq _ _ _ (by omega)] at hc
    rw [hbets, getI_set_eq _ _ _ (by omega), ← hbets]
    exact hp hc
  · have hbi : getI s'.bets i = getI s.bets i := by rw [hbets, getI_set_ne _ _ _ _ (Ne.symm hip)]
    refine Or.imp (fun hcov j hj hji hsj => ?_) (fun h => ⟨hbi.trans (h.1.trans (hmax h.2).symm), hbr⟩) h
    rw [hbi, hbets, hstacks, total_transfer s p a j (by omega) (by omega)]
    exact hcov j hj hji (hst ▸ hsj)

theorem cbr_core {s : State} {p : Nat} (amount : Int)
    (hp : p < cfg.n) (hlb : s.bets.length = cfg.n) (hup : maxI s.bets ≤ amount)
    (s' : State)
    (hact : s'.actors = ((rotatedRange cfg.n p).drop 1).filter fun i => getB s'.statuses i && getI s'.stacks i != 0)
    (hbets : s'.bets = s.bets.set p amount) (hbr : s'.bringInStatus = false) : RoundCore cfg s' := by
  have hnd : ((rotatedRange cfg.n p).drop 1).Nodup := (nodup_rotatedRange cfg.n p).sublist (List.drop_sublist _ _)
  refine ⟨?_, ?_, ?_, ?_⟩
  · rw [hact]; exact hnd.sublist List.filter_sublist
  · intro a ha
    rw [hact] at ha
    obtain ⟨h1, h2⟩ := List.mem_filter.1 ha
    exact ⟨(mem_rotatedRange _ _ _).1 (List.mem_of_mem_drop h1), h2⟩
  · exact ⟨p, by rw [hact]; exact List.filter_sublist.trans (List.drop_sublist _ _)⟩
  · intro i hi hcan hnot
    have hip : i = p := by
      have hmem : i ∈ rotatedRange cfg.n p := (mem_rotatedRange _ _ _).2 hi
      rw [rotatedRange_head _ _ hp] at hmem
      rcases List.mem_cons.1 hmem with h | h
      · exact h
      · exact absurd (by rw [hact]; exact List.mem_filter.2 ⟨h, hcan⟩) hnot
    subst hip
    right
    refine ⟨?_, hbr⟩
    rw [hbets, maxI_set_ge _ _ _ (by omega) hup, getI_set_eq _ _ _ (by omega)]

theorem effectiveStack_ge {s : State} {i j : Nat} {eff : Int} (hi : i < cfg.n) (hj : j < cfg.n) (hij : i ≠ j)
    (hsi : getB s.statuses i = true) (hsj : getB s.statuses j = true) (hidx : s.streetIndex.isSome = true)
    (he : s.effectiveStack cfg i = .ok eff) :
    min (getI s.stacks i) (getI s.bets j + getI s.stacks j - getI s.bets i) ≤ eff := by
  unfold State.effectiveStack at he
  rw [if_neg (by simp [Option.isSome_iff_ne_none.1 hidx, hsi])] at he
  simp only [] at he
  split at he
  · cases he
  · injection he with he
    -- the second largest total is at least the smaller of the totals of `i` and `j`
    have key := second_ge_min cfg.n
      (fun j => if getB s.statuses j = true then some (getI s.bets j + getI s.stacks j) else none)
      i j hi hj hij (getI s.bets i + getI s.stacks i) (getI s.bets j + getI s.stacks j)
      (by simp [hsi]) (by simp [hsj])
    unfold State.playerIndices at he
    generalize (sortI (List.filterMap (fun j => if getB s.statuses j = true then
      some (getI s.bets j + getI s.stacks j) else none) (List.range cfg.n))) = srt at he key
    omega

theorem beginBet_core (s1 : State) (opener : Nat) (actors : List Nat)
    (hfold : (playerIndices cfg).foldl (dropBody cfg s1) (rotatedRange cfg.n opener, none) = (actors, none))
    (hsi : s1.streetIndex.isSome = true) (hnn : ∀ i, i < cfg.n → 0 ≤ getI s1.stacks i)
    (s' : State) (ha : s'.actors = actors) (hb : s'.bets = s1.bets) (hs : s'.stacks = s1.stacks)
    (hst : s'.statuses = s1.statuses) : RoundCore cfg s' := by
  have hact : s'.actors = (rotatedRange cfg.n opener).filter fun a =>
      !(cannotAct cfg s1 a && (playerIndices cfg).contains a) := by
    rw [ha, dropBody_foldl s1 _ _ _ hfold, foldl_erase_filter _ _ _ (nodup_rotatedRange _ _)]
  have hmem : ∀ a, a < cfg.n → (a ∈ s'.actors ↔ cannotAct cfg s1 a = false) := by
    intro a han
    simp [hact, mem_rotatedRange, playerIndices, han]
  refine ⟨?_, fun a haa => ?_, ⟨opener, hact ▸ List.filter_sublist⟩, fun i hi hcan hnot => Or.inl ?_⟩
  · rw [hact]; exact (nodup_rotatedRange _ _).filter _
  · have han : a < cfg.n := (mem_rotatedRange _ _ _).1 (List.mem_filter.1 (hact ▸ haa)).1
    have hd := (hmem a han).1 haa
    simp only [cannotAct, Bool.or_eq_false_iff] at hd
    refine ⟨han, ?_⟩
    unfold State.canAct
    rw [hs, hst]
    simpa using hd.1
  · have hd : cannotAct cfg s1 i = true := Bool.of_not_eq_false fun hd => hnot ((hmem i hi).2 hd)
    have hcan := canAct_iff.1 hcan
    rw [hs, hst] at hcan
    cases he : s1.effectiveStack cfg i with
    | error e => simp [cannotAct, he, hcan.1, hcan.2] at hd
    | ok eff =>
      simp [cannotAct, he, hcan.1, hcan.2] at hd
      intro j hj hji hsj
      have := effectiveStack_ge hi hj (Ne.symm hji) hcan.1 (hst ▸ hsj) hsi he
      have := hnn i hi
      rw [hb, hs]
      omega

theorem tv_produce (s : State) (cs : List Card) : tv (s.produceCards cs) = tv s := rfl

/-- outside a street showing leaves the table alone: nothing is mucked -/
theorem opShow_tv {m : M} {arg : ShowArg} {i : Option Nat} {rest : List Ctl} (hctl : m.ctl = .opShow arg i :: rest)
    (hn : (m.st.street cfg).isNone = true) : tv (step cfg env m).st = tv m.st := by
  refine step_show (P := fun s' => tv s' = tv m.st) hctl rfl (fun _ => by rw [offQueue_eq]; rfl) fun hv _ hs => ?_
  rcases showOrMuck_ok hs with ⟨_, e⟩ | ⟨hmuck, _⟩
  · rw [e, offQueue_eq]; rfl
  · rw [verifyShow_none_status hv hn] at hmuck; cases hmuck

/-- (g) as `round_step` uses it (`raiseUp_of`): a completion, bet or raise is to at least the largest bet -/
def RaiseUp (cfg : Config) (m : M) : Prop :=
  ∀ a rest amt, m.ctl = .opCbr a :: rest → m.st.verifyCbr cfg a = .ok amt → maxI m.st.bets ≤ amt

theorem street_isSome {s : State} {st : Street} (h : s.street cfg = some st) : s.streetIndex.isSome = true := by
  unfold State.street at h
  cases hsi : s.streetIndex with
  | none => rw [hsi] at h; cases h
  | some x => rfl

theorem openerOf_street {s : State} {o : Nat} (h : openerOf cfg env s = .ok o) : s.streetIndex.isSome = true := by
  unfold openerOf at h
  split at h
  · cases h
  · exact street_isSome ‹_›

theorem round_beginBet (m : M) (hL : Ledger cfg m.st) (rest : List Ctl) (hctl : m.ctl = .beginBet :: rest) :
    (step cfg env m).halted ∨ RoundInv cfg (step cfg env m) := by
  step_at hctl
  split
  · exact Or.inl ⟨rfl, _, rfl⟩
  · rename_i opener hop
    split
    · exact Or.inl ⟨rfl, _, rfl⟩
    · rename_i actors hfold
      have core := beginBet_core (cfg := cfg) m.st opener actors hfold (openerOf_street hop)
        (fun i hi => hL.nonnegStacks i hi)
      refine Or.inr ⟨fun _ => core _ rfl rfl rfl rfl, fun op st r hcl => ⟨core _ rfl rfl rfl rfl, fun ht => ?_⟩⟩
      cases hcl
      split at ht
      · exact ⟨_, rfl, of_decide_eq_true ht⟩
      · cases ht

theorem verifyCall_ok {s : State} (h : s.verifyCheckingOrCalling = .ok ()) : s.bringInStatus = false :=
  Bool.eq_false_iff.2 (not_of_guard (of_guard h))

theorem verifyBringIn_ok {s : State} (h : s.verifyBringInPosting = .ok ()) : s.bringInStatus = true := by
  simpa using not_of_guard (of_guard h)

theorem round_opFold (m : M) (hR : RoundInv cfg m) (rest : List Ctl) (hctl : m.ctl = .opFold :: rest) :
    (step cfg env m).halted ∨ RoundInv cfg (step cfg env m) := by
  step_at hctl
  cases m.st.verifyFolding cfg with
  | error e => exact Or.inl ⟨rfl, _, rfl⟩
  | ok v =>
    cases ha : m.st.actors with
    | nil => exact Or.inl ⟨rfl, _, rfl⟩
    | cons p tail =>
      simp only []
      split
      · exact Or.inl ⟨rfl, _, rfl⟩
      · split
        · exact Or.inl ⟨rfl, _, rfl⟩
        · rename_i hm
          exact Or.inr (.after rfl (fold_core ha hm (hR.actor ha).1))

theorem round_opCall (m : M) (hL : Ledger cfg m.st) (hR : RoundInv cfg m) (rest : List Ctl)
    (hctl : m.ctl = .opCall :: rest) : (step cfg env m).halted ∨ RoundInv cfg (step cfg env m) := by
  step_at hctl
  cases hv : m.st.verifyCheckingOrCalling with
  | error e => exact Or.inl ⟨rfl, _, rfl⟩
  | ok u =>
    simp only []
    split
    · rename_i amount p tail hamt ha
      obtain ⟨core, hpn, _⟩ := hR.actor ha
      have h0 := hL.nonnegStacks p hpn
      have hle := getI_le_maxI m.st.bets p (by rw [hL.lenBets]; exact hpn)
      cases C03_call_amount hamt ha
      have hmax := maxI_set_mid m.st.bets p (getI m.st.bets p + min (getI m.st.stacks p) (maxI m.st.bets - getI m.st.bets p))
        (by rw [hL.lenBets]; exact hpn) (by omega) (by omega)
      exact Or.inr (.after rfl (core.transfer ha hL.lenBets hL.lenStacks rfl rfl rfl rfl (verifyCall_ok (s := m.st) hv)
        (fun h => Eq.trans (by omega) hmax.symm) (fun _ => hmax)))
    · exact Or.inl ⟨rfl, _, rfl⟩
    · exact Or.inl ⟨rfl, _, rfl⟩

theorem round_opBringIn (hcfg : CfgOk cfg) (m : M) (hL : Ledger cfg m.st) (hR : RoundInv cfg m) (rest : List Ctl)
    (hctl : m.ctl = .opBringIn :: rest) : (step cfg env m).halted ∨ RoundInv cfg (step cfg env m) := by
  step_at hctl
  cases hv : m.st.verifyBringInPosting with
  | error e => exact Or.inl ⟨rfl, _, rfl⟩
  | ok u =>
    simp only []
    split
    · rename_i amount p tail hamt ha
      split
      · exact Or.inl ⟨rfl, _, rfl⟩
      · rename_i hguard
        simp only [Bool.or_eq_true, not_or, Bool.not_eq_true] at hguard
        obtain ⟨core, hpn, _⟩ := hR.actor ha
        have h0 := hL.nonnegStacks p hpn
        have hbi := (Config.valid_of_validate hcfg.valid).bringIn
        cases bringInAmount_spec hamt ha
        -- nobody has anything in front of him yet
        have hz : ∀ x ∈ m.st.bets, x = 0 := by simpa using hguard.1.1.1
        have hlen : p < m.st.bets.length := by rw [hL.lenBets]; exact hpn
        have h1 := hz _ (maxI_mem m.st.bets (List.ne_nil_of_length_pos (by omega)))
        have h2 := hz _ (getI_mem m.st.bets p hlen)
        have hmax := maxI_set_ge m.st.bets p (getI m.st.bets p + min (getI m.st.stacks p) cfg.bringIn) hlen
          (by omega)
        exact Or.inr (.after rfl (core.transfer ha hL.lenBets hL.lenStacks rfl rfl rfl rfl rfl (fun _ => hmax.symm)
          (fun h => by rw [verifyBringIn_ok hv] at h; cases h)))
    · exact Or.inl ⟨rfl, _, rfl⟩
    · exact Or.inl ⟨rfl, _, rfl⟩

theorem round_opCbr (m : M) (hL : Ledger cfg m.st) (hU : RaiseUp cfg m) (hR : RoundInv cfg m) (a : Option Int)
    (rest : List Ctl) (hctl : m.ctl = .opCbr a :: rest) : (step cfg env m).halted ∨ RoundInv cfg (step cfg env m) := by
  refine (opCbr_cases hctl).imp_right fun ⟨amt, p, tail, hv, ha, hne⟩ => ?_
  obtain ⟨hst, hcl⟩ := C03_raise_bookkeeping (env := env) hctl hv ha hne
  exact .after hcl (hst ▸ cbr_core amt (hR.actor ha).2.1 hL.lenBets (hU a rest amt hctl hv) _ rfl rfl rfl)

theorem round_foreign (m : M) (hP : PhaseInv cfg m) (hR : RoundInv cfg m) (f : Ctl) (rest : List Ctl)
    (hctl : m.ctl = f :: rest) (hop : f.isOp = true) {X : Phase} (hX : f.phaseOf = some X) (hne : X ≠ .bet)
    (hf : f.callsUpdBet = false) (hst : (m.st.street cfg).isSome = true ∨ ∀ a i, f ≠ .opShow a i) :
    RoundInv cfg (step cfg env m) := by
  cases hv : verifyOp cfg env m.st f with
  | error e =>
    rw [step_refused hctl hop hv]
    exact hR.of_quiet rfl fun _ _ _ h => nomatch h
  | ok u =>
    have h0 := (hP.excl.of_flag (verifyOp_flag hv hX hst)).flag_false hne
    rw [← step_flag (env := env) hctl (by rw [hX]; exact fun e => hne (Option.some.inj e))] at h0
    exact .of_empty (by simpa [Phase.flag] using h0) (head_not_updBet m hP f rest hctl hf)

theorem round_step (hcfg : CfgOk cfg) (m : M) (hP : PhaseInv cfg m) (hL : Ledger cfg m.st)
    (hc : CleanStep cfg env m) (hU : RaiseUp cfg m) (hR : RoundInv cfg m) : RoundInv cfg (step cfg env m) := by
  have key : (step cfg env m).halted ∨ RoundInv cfg (step cfg env m) := by
    cases hctl : m.ctl with
    | nil => rw [step_nil hctl]; exact .inr hR
    | cons f rest =>
      cases f
      case beginBet => exact round_beginBet m hL rest hctl
      case opFold => exact round_opFold m hR rest hctl
      case opCall => exact round_opCall m hL hR rest hctl
      case opBringIn => exact round_opBringIn hcfg m hL hR rest hctl
      case opCbr a => exact round_opCbr m hL hU hR a rest hctl
      case endBet =>
        rw [step_endBet_eq hctl]
        split
        · exact .inl ⟨rfl, _, rfl⟩
        · exact .inr (.of_empty (by rw [cont_st, afterRound_eq]) fun _ _ _ h => nomatch h)
      case opCollect | opPush | opPostAnte | opPostBlind | opKill | opPull =>
        exact .inr (round_foreign m hP hR _ rest hctl rfl rfl nofun rfl (.inr fun _ _ => Ctl.noConfusion))
      case opShow a i =>
        cases hs : m.st.street cfg with
        | some st => exact .inr (round_foreign m hP hR _ rest hctl rfl rfl nofun rfl (.inl (by rw [hs]; rfl)))
        | none => exact .inr (hR.of_quiet (opShow_tv hctl (by rw [hs]; rfl)) (head_not_updBet m hP _ rest hctl rfl))
      all_goals exact .inr (hR.of_quiet (tv_frame m _ rest hctl rfl) (head_not_updBet m hP _ rest hctl rfl))
  rcases key with ⟨h0, e, he⟩ | h
  · -- by (f) a step that ends in an exception was a refused operation, which leaves the state as it was
    rcases hc with hn | ⟨_, _, _, _, hsame⟩
    · rw [he] at hn; cases hn
    · exact hR.of_quiet (congrArg tv hsame) (by rw [h0]; intro _ _ _ h; cases h)
  · exact h

/-- an accepted amount is at least the minimum raise, or it is all-in for less and then still beyond the largest bet -/
theorem verifyCbr_lower {s : State} {a : Option Int} {amt : Int}
    (hcan : ∀ p tail, s.actors = p :: tail → p < cfg.n ∧ getB s.statuses p = true)
    (h : s.verifyCbr cfg a = .ok amt) :
    ∃ st, s.street cfg = some st ∧ (maxI s.bets < amt ∨
      max s.cbrAmount st.minBet + (if s.completionStatus then 0 else maxI s.bets) ≤ amt) := by
  obtain ⟨p, mn, _, h0, hmn, _, hle, _⟩ := verifyCbr_bounds h
  obtain ⟨tail, st, ha, _, hst, hstack, i, hi, hip, hsi, hti⟩ := verifyCbr0_ok h0
  obtain ⟨hp, hsp⟩ := hcan p tail ha
  obtain ⟨eff, he, rfl⟩ := minCbrTo_ok h0 hst hmn
  have := effectiveStack_ge hp hi (Ne.symm hip) hsp hsi (street_isSome hst) he
  refine ⟨st, hst, ?_⟩
  generalize max s.cbrAmount st.minBet + (if s.completionStatus then 0 else maxI s.bets) = mn at hle ⊢
  omega

theorem raise_up_plain (hcfg : CfgOk cfg) {s : State} (hlen : s.bets.length = cfg.n) {a : Option Int} {amt : Int}
    (hcan : ∀ p tail, s.actors = p :: tail → p < cfg.n ∧ getB s.statuses p = true)
    (h : s.verifyCbr cfg a = .ok amt) (hcomp : s.completionStatus = false) : maxI s.bets ≤ amt := by
  obtain ⟨st, hst, h⟩ := verifyCbr_lower hcan h
  have hmb : 0 < st.minBet := minBet_pos hcfg (street_mem hst)
  rw [hcomp] at h
  simp only [Bool.false_eq_true, if_false] at h
  omega

/-- (g) as a fact about one state: while the bring-in may still be completed, the first street is being played
    and nobody has more than the bring-in in front of him -/
def CompletionBounded (cfg : Config) (s : State) : Prop :=
  s.completionStatus = true → s.streetIndex = some 0 ∧ ∀ i, i < cfg.n → getI s.bets i ≤ cfg.bringIn

theorem raise_up_completion (hcfg : CfgOk cfg) {s : State} (hlen : s.bets.length = cfg.n) {a : Option Int}
    {amt : Int} (hcan : ∀ p tail, s.actors = p :: tail → p < cfg.n ∧ getB s.statuses p = true)
    (h : s.verifyCbr cfg a = .ok amt) (hcomp : s.completionStatus = true) (hg : CompletionBounded cfg s) :
    maxI s.bets ≤ amt := by
  have hv := Config.valid_of_validate hcfg.valid
  obtain ⟨hidx, hbound⟩ := hg hcomp
  obtain ⟨st, hst, h⟩ := verifyCbr_lower hcan h
  have hmaxb : maxI s.bets ≤ cfg.bringIn := by
    by_cases hne : s.bets = []
    · rw [hne]; exact hv.bringIn
    · obtain ⟨j, hj, hje⟩ := mem_getI (maxI_mem s.bets hne)
      rw [← hje]; exact hbound j (by omega)
  have hmb : cfg.bringIn < st.minBet := by
    refine (hv.street0 st ?_).2
    simp only [State.street, hidx, pyIndex, Int.le_refl, if_true, Int.toNat_zero] at hst
    split at hst
    · rename_i k hk
      split at hk <;> cases hk
      exact hst
    · cases hst
  rw [hcomp] at h
  simp only [if_true] at h
  omega

/-- side condition (g) of a history: whenever a bet or raise is attempted, `CompletionBounded` holds -/
def CompletesUp (cfg : Config) (m : M) : Prop :=
  ∀ a rest, m.ctl = .opCbr a :: rest → CompletionBounded cfg m.st

/-- histories without an escaping internal exception (refused operations are part of the history) that
    satisfy (b) and (g) -/
inductive RoundReach (cfg : Config) (env : Env) : M → Prop where
  | init : RoundReach cfg env { st := setup cfg env, ctl := [.beginAnte] }
  | step {m} : RoundReach cfg env m → CleanStep cfg env m → NoCollectWhenFrozen m → CompletesUp cfg m →
      RoundReach cfg env (step cfg env m)
  | op {m} (o : Ctl) : RoundReach cfg env m → m.ctl = [] → o.isK = false → o.phase? = none → o ≠ .endHand →
      RoundReach cfg env { m with ctl := [o], err := none, warned := false }

theorem RoundReach.reach {m : M} (h : RoundReach cfg env m) : Reach cfg env m := by
  induction h with
  | init => exact .init
  | step _ _ _ _ ih => exact .step ih
  | op o _ hq hk hp he ih => exact .op o ih hq hk hp he

theorem ledger_clean (hcfg : CfgOk cfg) (m : M) (hL : Ledger cfg m.st) (hb : NoCollectWhenFrozen m)
    (hc : CleanStep cfg env m) : Ledger cfg (step cfg env m).st := by
  rcases hc with he | ⟨_, _, _, _, hsame⟩
  · exact C01_step hcfg m hL hb he
  · rw [hsame]; exact hL

theorem raiseUp_of (hcfg : CfgOk cfg) {m : M} (hL : Ledger cfg m.st) (hR : RoundInv cfg m)
    (hg : CompletesUp cfg m) : RaiseUp cfg m := by
  intro a rest amt hctl hv
  have hcan : ∀ p tail, m.st.actors = p :: tail → p < cfg.n ∧ getB m.st.statuses p = true :=
    fun p tail ha => ⟨(hR.actor ha).2.1, (canAct_iff.1 (hR.actor ha).2.2).1⟩
  cases hcs : m.st.completionStatus with
  | true => exact raise_up_completion hcfg hL.lenBets hcan hv hcs (hg a rest hctl)
  | false => exact raise_up_plain hcfg hL.lenBets hcan hv hcs

theorem RoundReach.invs (hcfg : CfgOk cfg) {m : M} (h : RoundReach cfg env m) :
    Ledger cfg m.st ∧ RoundInv cfg m := by
  induction h with
  | init =>
    exact ⟨C01_init hcfg env, RoundInv.of_empty rfl (by intro _ _ _ h; cases h)⟩
  | step hr hc hb hg ih =>
    obtain ⟨hL, hR⟩ := ih
    exact ⟨ledger_clean hcfg _ hL hb hc,
      round_step hcfg _ (C07_phase_order hr.reach) hL hc (raiseUp_of hcfg hL hR hg) hR⟩
  | op o hr hq hk hp he ih =>
    obtain ⟨hL, hR⟩ := ih
    refine ⟨hL, hR.of_quiet rfl ?_⟩
    intro op st r hc
    simp only [List.cons.injEq] at hc
    rw [hc.1] at hp; cases hp

theorem C03_queue (hcfg : CfgOk cfg) {m : M} (h : RoundReach cfg env m) :
    m.st.actors.Nodup ∧ (∀ a ∈ m.st.actors, a < cfg.n ∧ getB m.st.statuses a = true ∧ getI m.st.stacks a ≠ 0) ∧
    ∃ o, m.st.actors.Sublist (rotatedRange cfg.n o) := by
  cases ha : m.st.actors with
  | nil => exact ⟨List.nodup_nil, fun a h => (by cases h), 0, List.nil_sublist _⟩
  | cons p tail =>
    have core := ((h.invs hcfg).2.actor ha).1
    rw [← ha]
    exact ⟨core.nodup, fun a haa => ⟨(core.can a haa).1, canAct_iff.1 (core.can a haa).2⟩, core.clockwise⟩

theorem C03_waiting (hcfg : CfgOk cfg) {m : M} (h : RoundReach cfg env m) (hne : m.st.actors ≠ [])
    (i : Nat) (hi : i < cfg.n) (hs : getB m.st.statuses i = true) (hk : getI m.st.stacks i ≠ 0)
    (hq : i ∉ m.st.actors) :
    Covers cfg m.st i ∨ (getI m.st.bets i = maxI m.st.bets ∧ m.st.bringInStatus = false) :=
  ((h.invs hcfg).2.on hne).matched i hi (canAct_iff.2 ⟨hs, hk⟩) hq

theorem C03_round_ends (hcfg : CfgOk cfg) {m : M} (h : RoundReach cfg env m) {op : Option Operation}
    {st : Bool} {rest : List Ctl} (hctl : m.ctl = .updBet op st :: rest)
    (hend : (step cfg env m).ctl = .endBet :: rest) :
    m.st.liveCount ≤ 1 ∨ ∀ i, i < cfg.n → getB m.st.statuses i = true → getI m.st.stacks i ≠ 0 →
      Covers cfg m.st i ∨ getI m.st.bets i = maxI m.st.bets := by
  obtain ⟨hL, hR⟩ := h.invs hcfg
  obtain ⟨core, hst⟩ := hR.upd op st rest hctl
  obtain ⟨_, _, fs, _, hfs, hfin⟩ := upd_step (cfg := cfg) (env := env) hctl rfl
  have hcond := hfin.1 (List.append_cancel_right (hfs.symm.trans hend))
  rw [log_eq] at hcond
  simp only [Ctl.finished, Bool.or_eq_true, decide_eq_true_eq, List.isEmpty_iff] at hcond
  rcases hcond with (hemp | hlive) | hstat
  · exact Or.inr fun i hi hs hk =>
      (core.matched i hi (canAct_iff.2 ⟨hs, hk⟩) (hemp ▸ List.not_mem_nil)).imp_right And.left
  · exact Or.inl hlive
  · -- the flag of `_begin_betting`: a lone actor with nothing to call
    obtain ⟨a, ha, hmax⟩ := hst hstat
    refine Or.inr fun i hi hs hk => ?_
    by_cases hia : i = a
    · subst hia
      have := getI_le_maxI m.st.bets i (by rw [hL.lenBets]; exact hi)
      exact Or.inr (by omega)
    · exact (core.matched i hi (canAct_iff.2 ⟨hs, hk⟩) (by rw [ha]; simpa using hia)).imp_right And.left

/-! The premises are met: a heads-up hand with every automation on runs to the first betting decision; the small
    blind calls, the big blind checks, and `_update_betting` ends the round. -/

theorem RoundReach.steps : ∀ (k : Nat) {m : M}, RoundReach cfg env m →
    (∀ j, j < k → (M.step cfg env (stepN cfg env j m)).err = none ∧
      ((stepN cfg env j m).st.pots_.isSome = true → (stepN cfg env j m).st.betCollection = false) ∧
      (stepN cfg env j m).st.completionStatus = false) → RoundReach cfg env (stepN cfg env k m)
  | 0, _, h, _ => h
  | k + 1, m, h, hc => by
    obtain ⟨h1, h2, h3⟩ := hc 0 (Nat.succ_pos k)
    have hs : RoundReach cfg env (M.step cfg env m) :=
      .step h (Or.inl h1) h2 (fun _ _ _ hcs => nomatch hcs.symm.trans h3)
    exact RoundReach.steps k hs (fun j hj => hc (j + 1) (Nat.succ_lt_succ hj))

def roundCfg : Config := { exampleCfg with autos := Automation.all }
def roundA : M := stepN roundCfg liveEnv 46 { st := setup roundCfg liveEnv, ctl := [.beginAnte] }
def roundB : M := { roundA with ctl := [.opCall], err := none, warned := false }
def roundC : M := stepN roundCfg liveEnv 2 roundB
def roundD : M := { roundC with ctl := [.opCall], err := none, warned := false }
def roundE : M := stepN roundCfg liveEnv 1 roundD

example : CfgOk roundCfg := ⟨by decide, by decide⟩

example : RoundReach roundCfg liveEnv roundE ∧ roundA.st.actors = [1, 0] ∧ roundC.st.actors = [0] ∧
    roundE.ctl = [.updBet (some (.checkingOrCalling 0 0)) false] ∧
    (step roundCfg liveEnv roundE).ctl = [.endBet] := by
  have hA : RoundReach roundCfg liveEnv roundA := RoundReach.steps 46 .init (by decide +kernel)
  have hB : RoundReach roundCfg liveEnv roundB := .op _ hA (by decide +kernel) rfl rfl (by decide)
  have hC : RoundReach roundCfg liveEnv roundC := RoundReach.steps 2 hB (by decide +kernel)
  have hD : RoundReach roundCfg liveEnv roundD := .op _ hC (by decide +kernel) rfl rfl (by decide)
  have hE : RoundReach roundCfg liveEnv roundE := RoundReach.steps 1 hD (by decide +kernel)
  exact ⟨hE, by decide +kernel⟩

end PK
