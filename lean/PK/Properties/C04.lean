/-
  C04 — Hand comparison agrees with the rules of poker for every hand of every type.

  Structural theorems about the model of lookups.py / hands.py (for every content of the
  tables):

  * `C04_perm_invariant`   the table key of a hand — prime product of the ranks, suitedness,
                           rainbow test — does not depend on the order of the cards, so `<`, `==`
                           and validity are properties of the *set* of cards
  * `C04_key_ranks_only`   the key depends on the ranks and on suitedness only (suits are never
                           used to break ties)
  * `C04_low_reverses`     the deuce-to-seven low type exactly reverses the order of the standard high
                           type, which reads the same lookup: `a < b` as lows iff `b < a` as highs
                           (`C04_low_score`, `C04_high_score`: every low type orders by descending, every
                           high type by ascending table index)
  * `C04_eq_iff_index`     equality of hands is equality of strength, for high and low types alike
  * `C04_trichotomy`       any two valid hands of a type are `<`, `==` or `>`, exactly one of them
  * `C04_unknown_rejected` a hand containing an unknown rank is never accepted (the constructor
                           raises `KeyError`, unless a rainbow lookup has turned the cards away before);
                           `C04_unknown_card_rejected`: nor one containing a card of unknown suit, with
                           whatever exception (F25, 3658538: `Hand.__init__` tests `all(self.cards)`; by the key
                           alone five cards of unknown suit are suited and `A?K?Q?J?T?` is a straight flush)

  They hold for every content of the tables.  That the content is the order the rules of poker give
  (category order, kickers, ace conventions) is `PK.Properties.C04Table`.
-/
import PK.Proofs.ListLemmas
namespace PK

theorem hashRanks_perm {a b : List Rank} (h : a.Perm b) : hashRanks a = hashRanks b := by
  induction h with
  | nil => rfl
  | cons x _ ih => simp only [hashRanks, ih]
  | swap x y l =>
    simp only [hashRanks]
    cases multiplier x <;> cases multiplier y <;> cases hashRanks l <;> simp
    rename_i p q v
    rw [← Nat.mul_assoc, ← Nat.mul_assoc, Nat.mul_comm q p]
  | trans _ _ ih1 ih2 => rw [ih1, ih2]

theorem areSuited_perm {a b : List Card} (h : a.Perm b) : areSuited a = areSuited b := by
  unfold areSuited
  rw [dedup_length_perm (h.map _)]

theorem areRainbow_perm {a b : List Card} (h : a.Perm b) : areRainbow a = areRainbow b := by
  unfold areRainbow
  rw [dedup_length_perm (h.map _), h.length_eq]

theorem C04_key_ranks_only (l : LookupId) (a b : List Card)
    (hr : (a.map (·.rank)).Perm (b.map (·.rank)))
    (hs : areSuited a = areSuited b) (hb : areRainbow a = areRainbow b) :
    getKey l a = getKey l b := by
  unfold getKey
  rw [hb, hashRanks_perm hr, hs]

theorem C04_perm_invariant (l : LookupId) {a b : List Card} (h : a.Perm b) :
    getKey l a = getKey l b :=
  C04_key_ranks_only l a b (h.map _) (areSuited_perm h) (areRainbow_perm h)

/-- `Hand.__init__` in one piece: the lookup's key, then its entry; a list with a card that is not a real
    card is turned away only after the look-up has succeeded -/
theorem mkHand_eq (T : Tables) (ht : HandType) (cs : List Card) : mkHand T ht cs =
    match getKey ht.lookup cs with
    | .error e => .error e
    | .ok k => match (T.tbl ht.lookup).get? k with
      | some e => if cs.all Card.known then .ok ⟨cs, e⟩ else .error .valueError
      | none => .error .valueError := by
  have hc : ∀ (t : Lookup) (k : Key), t.contains k = (t.get? k).isSome := fun t k => by
    unfold Lookup.get? Lookup.contains Trie.contains
    cases t.dict.get? k.code <;> rfl
  unfold mkHand hasEntry getEntry
  cases getKey ht.lookup cs with
  | error e => cases e <;> rfl
  | ok k =>
    simp only [hc]
    cases (T.tbl ht.lookup).get? k <;> cases cs.all Card.known <;> rfl

theorem C04_entry_perm (T : Tables) (ht : HandType) {a b : List Card} (h : a.Perm b) :
    (mkHand T ht a).map (·.entry) = (mkHand T ht b).map (·.entry) := by
  rw [mkHand_eq, mkHand_eq, C04_perm_invariant ht.lookup h, h.all_eq]
  cases getKey ht.lookup b with
  | error e => rfl
  | ok k =>
    dsimp only
    cases (T.tbl ht.lookup).get? k <;> cases b.all Card.known <;> rfl

theorem C04_low_score (ht : HandType) (hl : ht.low = true) (a b : Hand) :
    score ht a < score ht b ↔ b.entry.index < a.entry.index := by
  simp only [score, hl, if_true]; omega

theorem C04_high_score (ht : HandType) (hl : ht.low = false) (a b : Hand) :
    score ht a < score ht b ↔ a.entry.index < b.entry.index := by
  simp only [score, hl]; simp

theorem C04_low_reverses (a b : Hand) :
    score .standardLow a < score .standardLow b ↔ score .standardHigh b < score .standardHigh a :=
  (C04_low_score _ rfl a b).trans (C04_high_score _ rfl b a).symm

theorem C04_eq_iff_index (ht : HandType) (a b : Hand) :
    score ht a = score ht b ↔ a.entry.index = b.entry.index := by
  unfold score; split <;> omega

theorem C04_trichotomy (ht : HandType) (a b : Hand) :
    (score ht a < score ht b ∧ ¬ score ht a = score ht b ∧ ¬ score ht b < score ht a) ∨
    (¬ score ht a < score ht b ∧ score ht a = score ht b ∧ ¬ score ht b < score ht a) ∨
    (¬ score ht a < score ht b ∧ ¬ score ht a = score ht b ∧ score ht b < score ht a) := by
  omega

theorem multiplier_isSome (r : Rank) : (multiplier r).isSome ↔ r < 13 := by
  simp [multiplier, primes]

theorem hashRanks_isSome : ∀ rs : List Rank, (hashRanks rs).isSome ↔ ∀ r ∈ rs, r < 13
  | [] => by simp [hashRanks]
  | r :: rs => by
    rw [List.forall_mem_cons, ← multiplier_isSome, ← hashRanks_isSome rs, hashRanks]
    cases multiplier r <;> cases hashRanks rs <;> simp

theorem mkHand_keyError_iff (T : Tables) (ht : HandType) (cs : List Card) :
    mkHand T ht cs = .error .keyError ↔
      (ht.lookup.rainbow && !areRainbow cs) = false ∧ hashRanks (cs.map (·.rank)) = none := by
  rw [mkHand_eq, getKey]
  cases ht.lookup.rainbow && !areRainbow cs with
  | true => simp
  | false =>
    cases hashRanks (cs.map (·.rank)) with
    | none => simp
    | some v =>
      simp only [Bool.false_eq_true, if_false, reduceCtorEq, and_false, iff_false]
      split
      · split <;> nofun
      · nofun

theorem C04_unknown_rejected (T : Tables) (ht : HandType) (cs : List Card)
    (hu : ∃ c ∈ cs, c.rank ≥ 13) (hr : ht.lookup.rainbow = false ∨ areRainbow cs = true) :
    mkHand T ht cs = .error .keyError := by
  refine (mkHand_keyError_iff T ht cs).2 ⟨by rcases hr with h | h <;> simp [h], ?_⟩
  rw [← Option.not_isSome_iff_eq_none, hashRanks_isSome]
  obtain ⟨c, hc, hge⟩ := hu
  exact fun h => Nat.not_lt.2 hge (h _ (List.mem_map_of_mem hc))

theorem C04_unknown_card_rejected (T : Tables) (ht : HandType) (cs : List Card)
    (hu : ∃ c ∈ cs, c.isUnknown = true) : ∀ h, mkHand T ht cs ≠ .ok h := by
  intro h hm
  have hall : cs.all Card.known = false := by
    obtain ⟨c, hc, hcu⟩ := hu
    rw [← Bool.not_eq_true, List.all_eq_true]
    exact fun hk => by simpa [Card.known, hcu] using hk c hc
  rw [mkHand_eq, hall] at hm
  split at hm
  · cases hm
  · split at hm <;> cases hm

end PK
