/-
  C04, kernel evaluation — the one expensive step of `PK.Properties.C04Table`, in a module of its own
  so that it is checked once per build: the kernel evaluates the model's construction of the standard
  lookup (`Lookup.__init__` of lookups.py as modelled in PK.Model.Lookup) and the specification
  `PK.Spec.standardKey` on all 7 462 signatures, and compares them (`PK.TableCheck.tableOk`).
  About three minutes and 13 GB; `decide +kernel` adds no axiom.
-/
import PK.Proofs.TableCheck
namespace PK
open PK.Spec PK.TableCheck

set_option maxRecDepth 100000 in
/-- the kernel's evaluation of the whole standard table against the specification -/
theorem standard_table_ok :
    tableOk LookupId.standard.builder.finish standardKey categoryLabel signatures5 = true := by decide +kernel

end PK
