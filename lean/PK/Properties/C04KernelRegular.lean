/-
  C04, kernel evaluation (ace-to-five low table) — see PK.Properties.C04Kernel.  Each theorem is the kernel's evaluation
  of the model's table construction and of the specification on a whole family of signatures.
-/
import PK.Proofs.TableCheck
namespace PK
open PK.Spec PK.TableCheck

set_option maxRecDepth 100000 in
/-- the `RegularLookup` (razz) on every five-card signature -/
theorem regular_table_ok :
    tableOk LookupId.regular.builder.finish regularLowKey regularLowLabel signatures5 = true := by decide +kernel

end PK
