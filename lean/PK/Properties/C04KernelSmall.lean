/-
  C04, kernel evaluation (the smaller tables) — see PK.Properties.C04Kernel.  Each evaluation is the kernel's run of
  the model's table construction and of the specification on whole families of signatures.  Checks that read the
  same enumeration of signatures and the same table are evaluated in one declaration: within a declaration the
  kernel keeps the value of a closed subterm, so `signatures5` / `rainbowSigs` are enumerated and each table is
  built once.
-/
import PK.Proofs.TableCheck
namespace PK
open PK.Spec PK.TableCheck

/-- `ShortDeckHoldemLookup` and `EightOrBetterLookup` on every five-card signature: the entries for the
    signatures of the family, and no entry for the others -/
theorem five_card_small_tables :
    (tableOk LookupId.shortDeck.builder.finish shortDeckKey shortDeckLabel shortDeckSigs
      && absentOk LookupId.shortDeck.builder.finish shortDeckOther
      && tableOk LookupId.eightOrBetter.builder.finish eightOrBetterKey noLabel eightSigs
      && absentOk LookupId.eightOrBetter.builder.finish eightOther) = true := by decide +kernel

/-- `BadugiLookup` (ace low) and `StandardBadugiLookup` (ace high) on every signature of one to four cards -/
theorem rainbow_tables :
    (tableOk LookupId.badugi.builder.finish (badugiKey valueLow) noLabel badugiSigs
      && absentOk LookupId.badugi.builder.finish badugiOther
      && tableOk LookupId.standardBadugi.builder.finish (badugiKey valueHigh) noLabel badugiSigs
      && absentOk LookupId.standardBadugi.builder.finish badugiOther) = true := by decide +kernel

theorem and4 {a b c d : Bool} (h : (a && b && c && d) = true) : a = true ∧ b = true ∧ c = true ∧ d = true := by
  simp only [Bool.and_eq_true] at h
  exact ⟨h.1.1.1, h.1.1.2, h.1.2, h.2⟩

/-- `ShortDeckHoldemLookup` on every five-card signature over the ranks 6 … A -/
theorem shortDeck_table_ok :
    tableOk LookupId.shortDeck.builder.finish shortDeckKey shortDeckLabel shortDeckSigs = true :=
  (and4 five_card_small_tables).1

/-- … and no entry for a signature with a rank below the six -/
theorem shortDeck_table_absent :
    absentOk LookupId.shortDeck.builder.finish shortDeckOther = true :=
  (and4 five_card_small_tables).2.1

/-- `EightOrBetterLookup` on every qualifying signature -/
theorem eight_table_ok :
    tableOk LookupId.eightOrBetter.builder.finish eightOrBetterKey noLabel eightSigs = true :=
  (and4 five_card_small_tables).2.2.1

/-- … and no entry for a signature that does not qualify (a pair, or a card above the eight) -/
theorem eight_table_absent :
    absentOk LookupId.eightOrBetter.builder.finish eightOther = true :=
  (and4 five_card_small_tables).2.2.2

/-- `BadugiLookup` (ace low) on every set of one to four different ranks -/
theorem badugi_table_ok :
    tableOk LookupId.badugi.builder.finish (badugiKey valueLow) noLabel badugiSigs = true :=
  (and4 rainbow_tables).1

/-- … and no entry when a rank repeats -/
theorem badugi_table_absent :
    absentOk LookupId.badugi.builder.finish badugiOther = true :=
  (and4 rainbow_tables).2.1

/-- `StandardBadugiLookup` (ace high) -/
theorem standardBadugi_table_ok :
    tableOk LookupId.standardBadugi.builder.finish (badugiKey valueHigh) noLabel badugiSigs = true :=
  (and4 rainbow_tables).2.2.1

/-- … and no entry when a rank repeats -/
theorem standardBadugi_table_absent :
    absentOk LookupId.standardBadugi.builder.finish badugiOther = true :=
  (and4 rainbow_tables).2.2.2

/-- `KuhnPokerLookup`: J < Q < K -/
theorem kuhn_table_ok :
    tableOk LookupId.kuhn.builder.finish kuhnKey noLabel kuhnSigs = true := by decide +kernel

/-- … and no entry for any other single card -/
theorem kuhn_table_absent :
    absentOk LookupId.kuhn.builder.finish kuhnOther = true := by decide +kernel

end PK
