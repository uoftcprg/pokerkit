/-
  C04, the content of the tables — **every lookup orders the hands it evaluates exactly as the rules of
  poker do, and accepts exactly the hands the rules admit**.

  The rankings in `PK.Spec.Ranking` are written from the rules (category from the multiplicities of the
  ranks, straights with the ace high or low, flushes, ties broken by (multiplicity, rank) descending;
  short-deck: flush above full house, A-9-8-7-6 straight; ace-to-five and eight-or-better lows; badugi;
  Kuhn), independently of lookups.py.  The model's tables are what `Lookup.__init__` builds (prime
  products, `_add_multisets`, `_add_straights`, last write wins, `__reset_ranks`).

  * `PK.Properties.C04Kernel*`: the kernel evaluates the model's construction of each table and the
    specification on every signature (rank multiset × suitedness) a hand can have — 7 462 for the
    five-card hands of the 52-card deck, 2 379 for one to four rainbow cards — and checks that every
    admissible signature has an entry, that its label is its category, that table index and
    specification key order the signatures identically, and that no inadmissible signature has an
    entry (`decide +kernel`; no axioms beyond `propext`).
  * here, lifted to cards (`PK.Proofs.TableLift`: the enumeration of signatures is complete — sorting,
    pigeonhole on four suits; the specifications look at the multiset of ranks only): for **any** card
    lists, in any order,

      `C04_standard_table`, `C04_standard_high`, `C04_standard_low`
                                               StandardHighHand, StandardLowHand, and the five-card
                                               evaluations inside Omaha / Greek hold'em
      `C04_short_deck_table`, `_rejects`       ShortDeckHoldemHand
      `C04_regular_low_table`                  RegularLowHand (razz)
      `C04_eight_table`, `_rejects`            EightOrBetterLowHand and Omaha eight-or-better
      `C04_badugi_table`, `_rejects`, `_not_rainbow`   BadugiHand and StandardBadugiHand
      `C04_kuhn_table`, `_rejects`             KuhnPokerHand

    each saying: both lists are accepted as hands, the label is the category the rules give (the three tables
    with categories: standard, short-deck, regular low), and
    `index a < index b` / `index a = index b` hold exactly when the rules rank `a` before / level with
    `b`; resp. the constructor raises `ValueError`.
-/
import PK.Properties.C04Kernel
import PK.Properties.C04KernelRegular
import PK.Properties.C04KernelSmall
import PK.Proofs.TableLift
namespace PK
open PK.Spec PK.TableCheck

theorem tbl_eq (l : LookupId) : Tables.build.tbl l = l.builder.finish := by
  cases l <;> rfl

/-- the families of inadmissible signatures are those of a larger family that fail a test on the ranks -/
theorem mem_filter_not {base : List Sig} {p : List Rank → Bool} {s : Sig} (hm : s ∈ base)
    (hp : ¬ p s.1 = true) : s ∈ base.filter fun s => !p s.1 :=
  List.mem_filter.2 ⟨hm, by simpa using hp⟩

theorem C04_standard_table (ht : HandType) (hl : ht.lookup = .standard) (a b : List Card)
    (ha : FiveCards a) (hb : FiveCards b) :
    ∃ x y, mkHand Tables.build ht a = .ok x ∧ mkHand Tables.build ht b = .ok y ∧
      x.entry.label = categoryLabel (standardKey (a.map (·.rank)) (areSuited a)) ∧
      (x.entry.index < y.entry.index ↔
        lexLt (standardKey (a.map (·.rank)) (areSuited a)) (standardKey (b.map (·.rank)) (areSuited b)) = true) ∧
      (x.entry.index = y.entry.index ↔
        standardKey (a.map (·.rank)) (areSuited a) = standardKey (b.map (·.rank)) (areSuited b)) :=
  -- `accept_of_check` takes: the lookup, its table, specification, labels and signatures with the kernel's check of
  -- them (`standard_table_ok`); the hand type and the two card lists, all cards known; `.inl rfl`: the lookup has no
  -- rainbow test (badugi: `.inr`, the cards are rainbow); then for each list its sorted ranks: they are a permutation
  -- of its ranks, with its suitedness they are among the signatures, and the specification gives them the same key
  accept_of_check Tables.build .standard _ (tbl_eq _) standardKey categoryLabel signatures5
    standard_table_ok ht hl a b ha.allKnown hb.allKnown (Or.inl rfl) (Or.inl rfl)
    _ (sortedRanks_perm a) (signature_mem ha) (standardKey_perm (sortedRanks_perm a) _)
    _ (sortedRanks_perm b) (signature_mem hb) (standardKey_perm (sortedRanks_perm b) _)

theorem C04_standard_high (a b : List Card) (ha : FiveCards a) (hb : FiveCards b) :
    ∃ x y, mkHand Tables.build .standardHigh a = .ok x ∧ mkHand Tables.build .standardHigh b = .ok y ∧
      (score .standardHigh x < score .standardHigh y ↔
        lexLt (standardKey (a.map (·.rank)) (areSuited a)) (standardKey (b.map (·.rank)) (areSuited b)) = true) ∧
      (score .standardHigh x = score .standardHigh y ↔
        standardKey (a.map (·.rank)) (areSuited a) = standardKey (b.map (·.rank)) (areSuited b)) := by
  obtain ⟨x, y, hx, hy, _, hlt, heq⟩ := C04_standard_table .standardHigh rfl a b ha hb
  exact ⟨x, y, hx, hy, (C04_high_score _ rfl x y).trans hlt, (C04_eq_iff_index _ x y).trans heq⟩

/-- deuce-to-seven low: the same table read backwards -/
theorem C04_standard_low (a b : List Card) (ha : FiveCards a) (hb : FiveCards b) :
    ∃ x y, mkHand Tables.build .standardLow a = .ok x ∧ mkHand Tables.build .standardLow b = .ok y ∧
      (score .standardLow x < score .standardLow y ↔
        lexLt (standardKey (b.map (·.rank)) (areSuited b)) (standardKey (a.map (·.rank)) (areSuited a)) = true) ∧
      (score .standardLow x = score .standardLow y ↔
        standardKey (a.map (·.rank)) (areSuited a) = standardKey (b.map (·.rank)) (areSuited b)) := by
  obtain ⟨y, x, hy, hx, _, hlt, heq⟩ := C04_standard_table .standardLow rfl b a hb ha
  exact ⟨x, y, hx, hy, (C04_low_score _ rfl x y).trans hlt,
    (C04_eq_iff_index _ x y).trans (eq_comm.trans (heq.trans eq_comm))⟩

/-- the premises are satisfiable and the statement is not vacuous: a royal flush beats four aces -/
example : FiveCards [⟨0, 0⟩, ⟨12, 0⟩, ⟨11, 0⟩, ⟨10, 0⟩, ⟨9, 0⟩] ∧ FiveCards [⟨0, 0⟩, ⟨0, 1⟩, ⟨0, 2⟩, ⟨0, 3⟩, ⟨12, 0⟩] ∧
    lexLt (standardKey [0, 0, 0, 0, 12] false) (standardKey [0, 12, 11, 10, 9] true) = true := by
  refine ⟨⟨rfl, by decide, by decide⟩, ⟨rfl, by decide, by decide⟩, by decide⟩

theorem short_mem {cs : List Card} (h : FiveCards cs) (hs : ∀ c ∈ cs, isShortRank c.rank = true) :
    (sortedRanks cs, areSuited cs) ∈ shortDeckSigs :=
  List.mem_filter.2 ⟨signature_mem h, (all_sortedRanks cs).2 hs⟩

theorem C04_short_deck_table (a b : List Card) (ha : FiveCards a) (hb : FiveCards b)
    (hsa : ∀ c ∈ a, isShortRank c.rank = true) (hsb : ∀ c ∈ b, isShortRank c.rank = true) :
    ∃ x y, mkHand Tables.build .shortDeck a = .ok x ∧ mkHand Tables.build .shortDeck b = .ok y ∧
      x.entry.label = shortDeckLabel (shortDeckKey (a.map (·.rank)) (areSuited a)) ∧
      (x.entry.index < y.entry.index ↔
        lexLt (shortDeckKey (a.map (·.rank)) (areSuited a)) (shortDeckKey (b.map (·.rank)) (areSuited b)) = true) ∧
      (x.entry.index = y.entry.index ↔
        shortDeckKey (a.map (·.rank)) (areSuited a) = shortDeckKey (b.map (·.rank)) (areSuited b)) :=
  accept_of_check Tables.build .shortDeck _ (tbl_eq _) shortDeckKey shortDeckLabel shortDeckSigs
    shortDeck_table_ok .shortDeck rfl a b ha.allKnown hb.allKnown (Or.inl rfl) (Or.inl rfl)
    _ (sortedRanks_perm a) (short_mem ha hsa) (shortDeckKey_perm (sortedRanks_perm a) _)
    _ (sortedRanks_perm b) (short_mem hb hsb) (shortDeckKey_perm (sortedRanks_perm b) _)

theorem C04_short_deck_rejects (a : List Card) (ha : FiveCards a)
    (hs : ∃ c ∈ a, isShortRank c.rank = false) :
    mkHand Tables.build .shortDeck a = .error .valueError := by
  refine reject_of_check Tables.build .shortDeck _ (tbl_eq _) shortDeckOther shortDeck_table_absent
    .shortDeck rfl a _ (sortedRanks_perm a) (mem_filter_not (p := (·.all isShortRank)) (signature_mem ha) ?_)
  obtain ⟨c, hc, hf⟩ := hs
  rw [all_sortedRanks]
  exact fun h => by simpa [hf] using h c hc

theorem C04_regular_low_table (a b : List Card) (ha : FiveCards a) (hb : FiveCards b) :
    ∃ x y, mkHand Tables.build .regularLow a = .ok x ∧ mkHand Tables.build .regularLow b = .ok y ∧
      x.entry.label = regularLowLabel (regularLowKey (a.map (·.rank)) (areSuited a)) ∧
      (x.entry.index < y.entry.index ↔
        lexLt (regularLowKey (a.map (·.rank)) (areSuited a)) (regularLowKey (b.map (·.rank)) (areSuited b)) = true) ∧
      (x.entry.index = y.entry.index ↔
        regularLowKey (a.map (·.rank)) (areSuited a) = regularLowKey (b.map (·.rank)) (areSuited b)) :=
  accept_of_check Tables.build .regular _ (tbl_eq _) regularLowKey regularLowLabel signatures5
    regular_table_ok .regularLow rfl a b ha.allKnown hb.allKnown (Or.inl rfl) (Or.inl rfl)
    _ (sortedRanks_perm a) (signature_mem ha) (regularLowKey_perm (sortedRanks_perm a) _)
    _ (sortedRanks_perm b) (signature_mem hb) (regularLowKey_perm (sortedRanks_perm b) _)

/-- five different ranks, none above the eight (ace low) -/
def QualifiesEight (cs : List Card) : Prop := (cs.map (·.rank)).Nodup ∧ ∀ c ∈ cs, c.rank ≤ 7

theorem qualifies_iff (cs : List Card) : qualifiesEight (sortedRanks cs) = true ↔ QualifiesEight cs := by
  unfold qualifiesEight QualifiesEight
  rw [Bool.and_eq_true, strictlyIncreasing_sortedRanks, all_sortedRanks]
  simp

theorem eight_mem {cs : List Card} (h : FiveCards cs) (hq : QualifiesEight cs) :
    (sortedRanks cs, areSuited cs) ∈ eightSigs :=
  List.mem_filter.2 ⟨signature_mem h, (qualifies_iff cs).2 hq⟩

theorem C04_eight_table (ht : HandType) (hl : ht.lookup = .eightOrBetter) (a b : List Card)
    (ha : FiveCards a) (hb : FiveCards b) (hqa : QualifiesEight a) (hqb : QualifiesEight b) :
    ∃ x y, mkHand Tables.build ht a = .ok x ∧ mkHand Tables.build ht b = .ok y ∧
      (x.entry.index < y.entry.index ↔
        lexLt (eightOrBetterKey (a.map (·.rank)) (areSuited a)) (eightOrBetterKey (b.map (·.rank)) (areSuited b)) = true) ∧
      (x.entry.index = y.entry.index ↔
        eightOrBetterKey (a.map (·.rank)) (areSuited a) = eightOrBetterKey (b.map (·.rank)) (areSuited b)) := by
  obtain ⟨x, y, hx, hy, _, h⟩ :=
    accept_of_check Tables.build .eightOrBetter _ (tbl_eq _) eightOrBetterKey noLabel eightSigs
      eight_table_ok ht hl a b ha.allKnown hb.allKnown (Or.inl rfl) (Or.inl rfl)
      _ (sortedRanks_perm a) (eight_mem ha hqa) (eightOrBetterKey_perm (sortedRanks_perm a) _)
      _ (sortedRanks_perm b) (eight_mem hb hqb) (eightOrBetterKey_perm (sortedRanks_perm b) _)
  exact ⟨x, y, hx, hy, h⟩

theorem C04_eight_rejects (ht : HandType) (hl : ht.lookup = .eightOrBetter) (a : List Card)
    (ha : FiveCards a) (hq : ¬ QualifiesEight a) :
    mkHand Tables.build ht a = .error .valueError :=
  reject_of_check Tables.build .eightOrBetter _ (tbl_eq _) eightOther eight_table_absent
    ht hl a _ (sortedRanks_perm a) (mem_filter_not (signature_mem ha) (by rwa [qualifies_iff]))

structure RainbowCards (cs : List Card) : Prop where
  pos : 1 ≤ cs.length
  le4 : cs.length ≤ 4
  known : ∀ c ∈ cs, c.rank < 13
  suits : ∀ c ∈ cs, c.suit < 4
  rainbow : areRainbow cs = true

theorem RainbowCards.allKnown {cs : List Card} (h : RainbowCards cs) : cs.all Card.known = true :=
  all_known_of_lt fun c hc => ⟨h.known c hc, h.suits c hc⟩

theorem rainbow_sig_len {cs : List Card} (hpos : 1 ≤ cs.length) (hk : ∀ c ∈ cs, c.rank < 13)
    (hr : areRainbow cs = true) :
    (sortedRanks cs, areSuited cs) ∈ signaturesRainbow cs.length := by
  refine List.mem_map.2 ⟨_, sortedRanks_mem hk, ?_⟩
  have : (dedup (cs.map (·.suit))).length = cs.length := by simpa [areRainbow] using hr
  rw [areSuited, this, Prod.mk.injEq, Bool.eq_iff_iff]
  simp only [decide_eq_true_eq, beq_iff_eq, true_and]
  omega

theorem rainbow_sig {cs : List Card} (h : RainbowCards cs) :
    (sortedRanks cs, areSuited cs) ∈ rainbowSigs := by
  have hin := rainbow_sig_len h.pos h.known h.rainbow
  have h1 := h.pos
  have h4 := h.le4
  unfold rainbowSigs
  rcases (by omega : cs.length = 1 ∨ cs.length = 2 ∨ cs.length = 3 ∨ cs.length = 4) with e | e | e | e <;>
    (rw [e] at hin; simp [hin])

theorem badugi_mem {cs : List Card} (h : RainbowCards cs) (hd : (cs.map (·.rank)).Nodup) :
    (sortedRanks cs, areSuited cs) ∈ badugiSigs :=
  List.mem_filter.2 ⟨rainbow_sig h, (strictlyIncreasing_sortedRanks cs).2 hd⟩

theorem C04_badugi_table (ht : HandType) (value : Rank → Nat)
    (hcase : (ht = .badugi ∧ value = valueLow) ∨ (ht = .standardBadugi ∧ value = valueHigh))
    (a b : List Card) (ha : RainbowCards a) (hb : RainbowCards b)
    (hda : (a.map (·.rank)).Nodup) (hdb : (b.map (·.rank)).Nodup) :
    ∃ x y, mkHand Tables.build ht a = .ok x ∧ mkHand Tables.build ht b = .ok y ∧
      (x.entry.index < y.entry.index ↔
        lexLt (badugiKey value (a.map (·.rank)) (areSuited a)) (badugiKey value (b.map (·.rank)) (areSuited b)) = true) ∧
      (x.entry.index = y.entry.index ↔
        badugiKey value (a.map (·.rank)) (areSuited a) = badugiKey value (b.map (·.rank)) (areSuited b)) := by
  have hok : tableOk ht.lookup.builder.finish (badugiKey value) noLabel badugiSigs = true := by
    rcases hcase with ⟨rfl, rfl⟩ | ⟨rfl, rfl⟩
    · exact badugi_table_ok
    · exact standardBadugi_table_ok
  obtain ⟨x, y, hx, hy, _, h⟩ :=
    accept_of_check Tables.build ht.lookup _ (tbl_eq _) (badugiKey value) noLabel badugiSigs hok ht rfl a b
      ha.allKnown hb.allKnown (Or.inr ha.rainbow) (Or.inr hb.rainbow)
      _ (sortedRanks_perm a) (badugi_mem ha hda) (badugiKey_perm value (sortedRanks_perm a) _)
      _ (sortedRanks_perm b) (badugi_mem hb hdb) (badugiKey_perm value (sortedRanks_perm b) _)
  exact ⟨x, y, hx, hy, h⟩

theorem C04_badugi_rejects (ht : HandType) (hcase : ht = .badugi ∨ ht = .standardBadugi)
    (a : List Card) (ha : RainbowCards a) (hda : ¬ (a.map (·.rank)).Nodup) :
    mkHand Tables.build ht a = .error .valueError := by
  have habs : absentOk ht.lookup.builder.finish badugiOther = true := by
    rcases hcase with rfl | rfl
    · exact badugi_table_absent
    · exact standardBadugi_table_absent
  exact reject_of_check Tables.build ht.lookup _ (tbl_eq _) badugiOther habs ht rfl a _ (sortedRanks_perm a)
    (mem_filter_not (rainbow_sig ha) (by rwa [strictlyIncreasing_sortedRanks]))

theorem C04_badugi_not_rainbow (ht : HandType) (hcase : ht = .badugi ∨ ht = .standardBadugi)
    (a : List Card) (h : areRainbow a = false) :
    mkHand Tables.build ht a = .error .valueError := by
  rcases hcase with rfl | rfl <;> exact reject_not_rainbow _ _ a rfl h

theorem kuhn_sig (c : Card) (hk : c.rank < 13) :
    ([c.rank], areSuited [c]) ∈ signaturesRainbow 1 := by
  simpa [sortedRanks] using rainbow_sig_len (cs := [c]) (Nat.le_refl 1) (by simpa using hk) (by simp [areRainbow, dedup])

/-- a jack, queen or king (ranks 10, 11, 12) alone is a hand; J < Q < K -/
theorem C04_kuhn_table (c d : Card) (hc : 10 ≤ c.rank ∧ c.rank < 13) (hd : 10 ≤ d.rank ∧ d.rank < 13)
    (hcs : c.suit < 4) (hds : d.suit < 4) :
    ∃ x y, mkHand Tables.build .kuhn [c] = .ok x ∧ mkHand Tables.build .kuhn [d] = .ok y ∧
      (x.entry.index < y.entry.index ↔ c.rank < d.rank) ∧
      (x.entry.index = y.entry.index ↔ c.rank = d.rank) := by
  have mem : ∀ c : Card, 10 ≤ c.rank ∧ c.rank < 13 → ([c.rank], areSuited [c]) ∈ kuhnSigs :=
    fun c hc => List.mem_filter.2 ⟨kuhn_sig c hc.2, by simp [isKuhnRank, hc.1]⟩
  obtain ⟨x, y, hx, hy, _, h1, h2⟩ :=
    accept_of_check Tables.build .kuhn _ (tbl_eq _) kuhnKey noLabel kuhnSigs
      kuhn_table_ok .kuhn rfl [c] [d]
      (all_known_of_lt (by simpa using ⟨hc.2, hcs⟩)) (all_known_of_lt (by simpa using ⟨hd.2, hds⟩))
      (Or.inl rfl) (Or.inl rfl) [c.rank] (List.Perm.refl _) (mem c hc) rfl [d.rank] (List.Perm.refl _) (mem d hd) rfl
  refine ⟨x, y, hx, hy, ?_, ?_⟩
  · rw [h1]; simp [kuhnKey, valueLow, lexLt]
  · rw [h2]; simp [kuhnKey, valueLow]

theorem C04_kuhn_rejects (c : Card) (hc : c.rank < 10) :
    mkHand Tables.build .kuhn [c] = .error .valueError :=
  reject_of_check Tables.build .kuhn _ (tbl_eq _) kuhnOther kuhn_table_absent
    .kuhn rfl [c] [c.rank] (List.Perm.refl _)
    (mem_filter_not (p := (·.all isKuhnRank)) (kuhn_sig c (Nat.lt_of_lt_of_le hc (by decide)))
      (by simp [isKuhnRank, Nat.not_le.2 hc]))

end PK
