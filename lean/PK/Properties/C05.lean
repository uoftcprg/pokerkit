/-
  C05 — The hand made from hole and board cards is the best one the game allows.

  * `mem_combinations`      `combinations l k` are exactly the sublists of `l` of length `k`
                            (`C05_combos`, `C05_combos_complete`: the two directions)
  * `C05_best_of`           the maximisation loop shared by all `from_game` implementations returns
                            a valid candidate of maximal strength, and `None` exactly when no candidate is
                            valid (for every list of candidates)
  * `BestOf`, `BestOf.loop` what a `from_game` owes its candidates, and that the loop over verdicts that
                            already are the best of their candidates is the best of all of them; the
                            nested loops below are instances
  * `C05_standard`          standard / short-deck / low games: best five of hole + board
  * `C05_greek`             Greek hold'em: the best five of (all hole cards + three board cards)
  * `C05_omaha`             Omaha (high and eight-or-better low): the best hand made of exactly two
                            hole cards and three board cards
  * `C05_badugi`            badugi: the best hand of the largest size that admits a valid hand
  * `C05_or_none`           `from_game_or_none` is `None` exactly when `from_game` finds no hand
  Each says as well that no hand is reported exactly when no legal combination is valid.
  All for card lists of any length (so "0-7 hole cards, 0-5 board cards" is a special case) and
  for every content of the lookup tables; the hypothesis `Known` (no `?` rank) is what the
  real code needs not to raise `KeyError`.
-/
import PK.Properties.C04
namespace PK

theorem mem_combinations {α : Type} : ∀ (l : List α) (k : Nat) (c : List α),
    c ∈ combinations l k ↔ c.Sublist l ∧ c.length = k
  | l, 0, c => by
    simp only [combinations, List.mem_singleton, List.length_eq_zero_iff]
    exact ⟨fun h => ⟨h ▸ List.nil_sublist l, h⟩, And.right⟩
  | [], k + 1, c => by
    simp only [combinations, List.not_mem_nil, List.sublist_nil, false_iff]
    rintro ⟨rfl, h⟩
    cases h
  | x :: xs, k + 1, c => by
    simp only [combinations, List.mem_append, List.mem_map, mem_combinations xs, List.sublist_cons_iff]
    constructor
    · rintro (⟨r, ⟨h1, h2⟩, rfl⟩ | ⟨h1, h2⟩)
      · exact ⟨.inr ⟨r, rfl, h1⟩, by simp [h2]⟩
      · exact ⟨.inl h1, h2⟩
    · rintro ⟨h1 | ⟨r, rfl, h1⟩, h2⟩
      · exact .inr ⟨h1, h2⟩
      · exact .inl ⟨r, ⟨h1, by simpa using h2⟩, rfl⟩

theorem C05_combos {α : Type} (l : List α) (k : Nat) (c : List α) :
    c ∈ combinations l k → c.Sublist l ∧ c.length = k :=
  (mem_combinations l k c).1

theorem C05_combos_complete {α : Type} (l : List α) (c : List α) (h : c.Sublist l) :
    c ∈ combinations l c.length :=
  (mem_combinations l c.length c).2 ⟨h, rfl⟩

variable (ht : HandType)

def NoKey (rs : List (Except EvalErr Hand)) : Prop := ∀ r ∈ rs, r ≠ .error .keyError

theorem bestStep_ok (cur : Option Hand) (hd : Hand) :
    ∃ w, bestStep ht (.ok cur) (.ok hd) = .ok (some w) ∧ (w = hd ∨ cur = some w) ∧
      score ht hd ≤ score ht w ∧ ∀ c, cur = some c → score ht c ≤ score ht w := by
  cases cur with
  | none => exact ⟨hd, rfl, .inl rfl, Int.le_refl _, nofun⟩
  | some m =>
    simp only [bestStep]
    split
    · exact ⟨hd, rfl, .inl rfl, Int.le_refl _, fun c h => by cases h; omega⟩
    · exact ⟨m, rfl, .inr rfl, by omega, fun c h => by cases h; exact Int.le_refl _⟩

theorem C05_best_of (rs : List (Except EvalErr Hand)) (hnk : NoKey rs) :
    ∃ res, bestOfResults ht rs = .ok res ∧
      (res = none ↔ ∀ r ∈ rs, r = .error .valueError) ∧
      (∀ h, res = some h → .ok h ∈ rs ∧ ∀ h', .ok h' ∈ rs → score ht h' ≤ score ht h) := by
  -- after each prefix of the candidates the loop holds the verdict on that prefix: induction from the right
  rw [← rs.reverse_reverse] at hnk ⊢
  generalize rs.reverse = l at hnk ⊢
  induction l with
  | nil => exact ⟨none, rfl, by simp, nofun⟩
  | cons r l ih =>
    rw [List.reverse_cons] at hnk ⊢
    generalize l.reverse = pre at ih hnk ⊢
    obtain ⟨res, h1, h2, h3⟩ := ih fun x hx => hnk x (List.mem_append_left _ hx)
    rw [bestOfResults, List.foldl_append, ← bestOfResults, h1]
    match r, hnk r (by simp) with
    | .error .valueError, _ =>
      refine ⟨res, rfl, by simp [h2, or_imp], fun h hh => ?_⟩
      obtain ⟨a, b⟩ := h3 h hh
      exact ⟨List.mem_append_left _ a, fun h' hh' => b h' (by simpa using hh')⟩
    | .ok hd, _ =>
      obtain ⟨w, hw, hwin, hhd, hcur⟩ := bestStep_ok ht res hd
      refine ⟨some w, hw, by simp, fun h hh => ?_⟩
      cases hh
      refine ⟨?_, fun h' hh' => ?_⟩
      · rcases hwin with rfl | e
        · simp
        · exact List.mem_append_left _ (h3 w e).1
      · rcases List.mem_append.1 hh' with e | e
        · cases res with
          | none => cases h2.1 rfl _ e
          | some c => exact Int.le_trans ((h3 c rfl).2 h' e) (hcur c rfl)
        · cases List.mem_singleton.1 e
          exact hhd

/-- `r` is the verdict of a `from_game` on candidates whose constructor results make up `S` -/
def BestOf (r : Except EvalErr Hand) (S : Except EvalErr Hand → Prop) : Prop :=
  (r = .error .valueError ↔ ∀ x, S x → x = .error .valueError) ∧
  (∀ h, r = .ok h → S (.ok h) ∧ ∀ h', S (.ok h') → score ht h' ≤ score ht h) ∧
  r ≠ .error .keyError

theorem BestOf.congr {r : Except EvalErr Hand} {S S' : Except EvalErr Hand → Prop} (h : ∀ x, S x ↔ S' x) :
    BestOf ht r S ↔ BestOf ht r S' := by
  rw [funext fun x => propext (h x)]

theorem BestOf.single {r : Except EvalErr Hand} (h : r ≠ .error .keyError) : BestOf ht r (r = ·) := by
  refine ⟨⟨fun e _ hx => hx ▸ e, fun H => H r rfl⟩, fun _ e => ⟨e, fun _ e' => ?_⟩, h⟩
  cases e.symm.trans e'
  exact Int.le_refl _

/-- with one candidate per `c` (`BestOf.single`) this is the plain loop; Greek and Omaha hold'em nest it -/
theorem BestOf.loop {β : Type} (cs : List β) (f : β → Except EvalErr Hand)
    (S : β → Except EvalErr Hand → Prop) (hS : ∀ c ∈ cs, BestOf ht (f c) (S c)) :
    BestOf ht (orValueError (bestOfResults ht (cs.map f))) (fun x => ∃ c ∈ cs, S c x) := by
  obtain ⟨res, h1, h2, h3⟩ := C05_best_of ht (cs.map f) fun r hr => by
    obtain ⟨c, hc, rfl⟩ := List.mem_map.1 hr
    exact (hS c hc).2.2
  rw [h1]
  cases res with
  | none =>
    have hall : ∀ c ∈ cs, f c = .error .valueError := fun c hc => h2.1 rfl _ (List.mem_map_of_mem hc)
    exact ⟨⟨fun _ x ⟨c, hc, hx⟩ => (hS c hc).1.1 (hall c hc) x hx, fun _ => rfl⟩, nofun, nofun⟩
  | some hd =>
    obtain ⟨a, b⟩ := h3 hd rfl
    obtain ⟨c, hc, hfc⟩ := List.mem_map.1 a
    have hin : S c (.ok hd) := ((hS c hc).2.1 hd hfc).1
    refine ⟨⟨nofun, fun hall => nomatch hall _ ⟨c, hc, hin⟩⟩, fun h hh => ?_, nofun⟩
    cases hh
    refine ⟨⟨c, hc, hin⟩, fun h' ⟨c', hc', hh'⟩ => ?_⟩
    -- the verdict on `c'` is a hand at least as strong as `h'`, and `hd` is at least as strong as that
    obtain ⟨hve, hok, hnk⟩ := hS c' hc'
    match hfc' : f c' with
    | .ok w => exact Int.le_trans ((hok w hfc').2 h' hh') (b w (List.mem_map.2 ⟨c', hc', hfc'⟩))
    | .error .keyError => exact absurd hfc' hnk
    | .error .valueError => cases hve.1 hfc' _ hh'

def Known (cs : List Card) : Prop := ∀ c ∈ cs, c.rank < 13

variable (T : Tables)

theorem mkHand_noKey (cs : List Card) (h : Known cs) : mkHand T ht cs ≠ .error .keyError := fun e => by
  have := ((mkHand_keyError_iff T ht cs).1 e).2
  rw [← Option.not_isSome_iff_eq_none, hashRanks_isSome] at this
  exact this (List.forall_mem_map.2 h)

theorem Known.sublist {a b : List Card} (h : Known b) (hs : a.Sublist b) : Known a :=
  fun c hc => h c (hs.subset hc)

/-- `CombinationHand.from_game`: one candidate for each combination of hole + board -/
theorem fromGameCombination_best (hole board : List Card) (hk : Known (hole ++ board)) :
    BestOf ht (fromGameCombination T ht hole board)
      (fun x => ∃ c ∈ combinations (hole ++ board) ht.cardCount, mkHand T ht c = x) :=
  BestOf.loop ht _ _ _ fun c hc =>
    BestOf.single ht (mkHand_noKey ht T c (hk.sublist (C05_combos _ _ c hc).1))

theorem C05_standard (hole board : List Card) (hk : Known (hole ++ board)) :
    (fromGameCombination T ht hole board = .error .valueError ↔
      ∀ c ∈ combinations (hole ++ board) ht.cardCount, mkHand T ht c = .error .valueError) ∧
    (∀ h, fromGameCombination T ht hole board = .ok h →
      (∃ c ∈ combinations (hole ++ board) ht.cardCount, mkHand T ht c = .ok h) ∧
      ∀ c ∈ combinations (hole ++ board) ht.cardCount, ∀ h', mkHand T ht c = .ok h' →
        score ht h' ≤ score ht h) ∧
    fromGameCombination T ht hole board ≠ .error .keyError := by
  obtain ⟨hve, hok, hnk⟩ := fromGameCombination_best ht T hole board hk
  refine ⟨hve.trans ⟨fun H c hc => H _ ⟨c, hc, rfl⟩, fun H x ⟨c, hc, e⟩ => e ▸ H c hc⟩, fun h hh => ?_, hnk⟩
  exact ⟨(hok h hh).1, fun c hc h' hm => (hok h hh).2 h' ⟨c, hc, hm⟩⟩

/-- `BoardCombinationHand.from_game`: `CombinationHand.from_game` on the hole cards and each combination of board
    cards -/
theorem fromGameBoard_best (hole board : List Card) (hk : Known (hole ++ board)) :
    BestOf ht (fromGameBoard T ht hole board) (fun x => ∃ bc ∈ combinations board ht.boardCardCount,
      ∃ c ∈ combinations (hole ++ bc) ht.cardCount, mkHand T ht c = x) :=
  BestOf.loop ht _ _ _ fun bc hbc =>
    fromGameCombination_best ht T hole bc (hk.sublist ((C05_combos _ _ bc hbc).1.append_left hole))

theorem C05_greek (hole board : List Card) (hk : Known (hole ++ board)) :
    (∀ h, fromGameBoard T ht hole board = .ok h →
      (∃ bc ∈ combinations board ht.boardCardCount,
        ∃ c ∈ combinations (hole ++ bc) ht.cardCount, mkHand T ht c = .ok h) ∧
      ∀ bc ∈ combinations board ht.boardCardCount,
        ∀ c ∈ combinations (hole ++ bc) ht.cardCount, ∀ h', mkHand T ht c = .ok h' →
          score ht h' ≤ score ht h) ∧
    (fromGameBoard T ht hole board = .error .valueError ↔
      ∀ bc ∈ combinations board ht.boardCardCount,
        ∀ c ∈ combinations (hole ++ bc) ht.cardCount, mkHand T ht c = .error .valueError) ∧
    fromGameBoard T ht hole board ≠ .error .keyError := by
  obtain ⟨hve, hok, hnk⟩ := fromGameBoard_best ht T hole board hk
  refine ⟨fun h hh => ⟨(hok h hh).1, fun bc hbc c hc h' hm => (hok h hh).2 h' ⟨bc, hbc, c, hc, hm⟩⟩, ?_, hnk⟩
  exact hve.trans ⟨fun H bc hbc c hc => H _ ⟨bc, hbc, c, hc, rfl⟩,
    fun H x ⟨bc, hbc, c, hc, e⟩ => e ▸ H bc hbc c hc⟩

/-- `HoleBoardCombinationHand.from_game`: `BoardCombinationHand.from_game` on each combination of hole cards -/
theorem fromGameHoleBoard_best (hole board : List Card) (hk : Known (hole ++ board)) :
    BestOf ht (fromGameHoleBoard T ht hole board) (fun x => ∃ hc ∈ combinations hole ht.holeCardCount,
      ∃ bc ∈ combinations board ht.boardCardCount,
        ∃ c ∈ combinations (hc ++ bc) ht.cardCount, mkHand T ht c = x) :=
  BestOf.loop ht _ _ _ fun hc hhc =>
    fromGameBoard_best ht T hc board (hk.sublist ((C05_combos _ _ hc hhc).1.append_right board))

theorem C05_omaha (hole board : List Card) (hk : Known (hole ++ board)) :
    (∀ h, fromGameHoleBoard T ht hole board = .ok h →
      (∃ hc ∈ combinations hole ht.holeCardCount, ∃ bc ∈ combinations board ht.boardCardCount,
        ∃ c ∈ combinations (hc ++ bc) ht.cardCount, mkHand T ht c = .ok h) ∧
      ∀ hc ∈ combinations hole ht.holeCardCount, ∀ bc ∈ combinations board ht.boardCardCount,
        ∀ c ∈ combinations (hc ++ bc) ht.cardCount, ∀ h', mkHand T ht c = .ok h' →
          score ht h' ≤ score ht h) ∧
    (fromGameHoleBoard T ht hole board = .error .valueError ↔
      ∀ hc ∈ combinations hole ht.holeCardCount, ∀ bc ∈ combinations board ht.boardCardCount,
        ∀ c ∈ combinations (hc ++ bc) ht.cardCount, mkHand T ht c = .error .valueError) ∧
    fromGameHoleBoard T ht hole board ≠ .error .keyError := by
  obtain ⟨hve, hok, hnk⟩ := fromGameHoleBoard_best ht T hole board hk
  refine ⟨fun h hh => ⟨(hok h hh).1,
    fun hc hhc bc hbc c hcc h' hm => (hok h hh).2 h' ⟨hc, hhc, bc, hbc, c, hcc, hm⟩⟩, ?_, hnk⟩
  exact hve.trans ⟨fun H hc hhc bc hbc c hcc => H _ ⟨hc, hhc, bc, hbc, c, hcc, rfl⟩,
    fun H x ⟨hc, hhc, bc, hbc, c, hcc, e⟩ => e ▸ H hc hhc bc hbc c hcc⟩

/-- the loop of `BadugiHand.from_game` over decreasing sizes, which stops at the first size with a result -/
theorem foldl_first (F : Nat → Except EvalErr (Option Hand)) (Q : Nat → Hand → Prop) (N : Nat → Prop)
    (hF : ∀ k, ∃ r, F k = .ok r ∧ (r = none ↔ N k) ∧ ∀ h, r = some h → Q k h) :
    ∀ ks : List Nat, ks.Pairwise (· > ·) →
      ∃ r, ks.foldl (fun (acc : Except EvalErr (Option Hand)) k => match acc with
          | .error e => .error e
          | .ok (some h) => .ok (some h)
          | .ok none => F k) (.ok none) = .ok r ∧
        (r = none ↔ ∀ k ∈ ks, N k) ∧
        ∀ h, r = some h → ∃ k ∈ ks, Q k h ∧ ∀ k' ∈ ks, k' > k → N k'
  | [], _ => ⟨none, rfl, by simp, nofun⟩
  | k :: ks, hks => by
    obtain ⟨hk, hks'⟩ := List.pairwise_cons.1 hks
    obtain ⟨r0, hr0, hn, hq⟩ := hF k
    rw [List.foldl_cons, hr0]
    cases r0 with
    | none =>
      obtain ⟨r, hr, h2, h3⟩ := foldl_first F Q N hF ks hks'
      refine ⟨r, hr, by rw [h2, List.forall_mem_cons, iff_and_self]; exact fun _ => hn.1 rfl, fun h hh => ?_⟩
      obtain ⟨k0, hk0, hq0, hgt⟩ := h3 h hh
      refine ⟨k0, List.mem_cons_of_mem _ hk0, hq0, fun k' hk' => ?_⟩
      rcases List.mem_cons.1 hk' with rfl | hk'
      · exact fun _ => hn.1 rfl
      · exact hgt k' hk'
    | some h =>
      refine ⟨some h, foldl_fixed (fun _ => rfl) ks, ⟨nofun, fun H => nomatch hn.2 (H k List.mem_cons_self)⟩,
        fun h' hh => ?_⟩
      cases hh
      refine ⟨k, List.mem_cons_self, hq h rfl, fun k' hk' hgt => ?_⟩
      rcases List.mem_cons.1 hk' with rfl | hk'
      · exact absurd hgt (Nat.lt_irrefl _)
      · exact absurd hgt (Nat.lt_asymm (hk k' hk'))

theorem C05_badugi (hole board : List Card) (hk : Known (hole ++ board)) :
    (∀ h, fromGameBadugi T ht hole board = .ok h →
      ∃ k ∈ [4, 3, 2, 1],
        (∃ c ∈ combinations (hole ++ board) k, mkHand T ht c = .ok h) ∧
        (∀ c ∈ combinations (hole ++ board) k, ∀ h', mkHand T ht c = .ok h' → score ht h' ≤ score ht h) ∧
        (∀ k' ∈ [4, 3, 2, 1], k' > k →
          ∀ c ∈ combinations (hole ++ board) k', mkHand T ht c = .error .valueError)) ∧
    (fromGameBadugi T ht hole board = .error .valueError ↔
      ∀ k ∈ [4, 3, 2, 1], ∀ c ∈ combinations (hole ++ board) k, mkHand T ht c = .error .valueError) ∧
    fromGameBadugi T ht hole board ≠ .error .keyError := by
  obtain ⟨r, hr, h2, h3⟩ := foldl_first
    (fun k => bestOfResults ht ((combinations (hole ++ board) k).map (mkHand T ht))) _ _
    (fun k => C05_best_of ht _ fun r hr => by
      obtain ⟨c, hc, rfl⟩ := List.mem_map.1 hr
      exact mkHand_noKey ht T c (hk.sublist (C05_combos _ _ c hc).1)) [4, 3, 2, 1] (by decide)
  simp only [List.mem_map, forall_exists_index, and_imp, forall_apply_eq_imp_iff₂] at h2 h3
  have hres : fromGameBadugi T ht hole board = orValueError (.ok r) := congrArg orValueError hr
  rw [hres]
  cases r with
  | none => exact ⟨nofun, ⟨fun _ => h2.1 rfl, fun _ => rfl⟩, nofun⟩
  | some hd =>
    refine ⟨fun h hh => ?_, ⟨nofun, fun H => nomatch h2.2 H⟩, nofun⟩
    cases hh
    obtain ⟨k, hk', ⟨hex, hmax⟩, hgt⟩ := h3 hd rfl
    exact ⟨k, hk', hex, fun c hc h' hm => hmax h' c hc hm, hgt⟩

theorem C05_or_none (hole board : List Card) :
    fromGameOrNone T ht hole board = .ok none ↔ fromGame T ht hole board = .error .valueError := by
  unfold fromGameOrNone
  cases h : fromGame T ht hole board with
  | ok v => simp
  | error e => cases e <;> simp

end PK
