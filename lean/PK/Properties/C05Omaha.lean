/-
  C05 ∘ C04 for Omaha — **an Omaha hand is the best hand made of exactly two hole cards and three board
  cards, under the rules of poker** (`C05_omaha_by_rules`); the eight-or-better low likewise, or none when
  no such five cards qualify (`C05_omaha8_by_rules`).  Both are `omaha_by_rules`: `fromGameHoleBoard_best` +
  `BestOf.by_rules` + `C04_standard_table` / `C04_eight_table`.
-/
import PK.Properties.C05Rules
namespace PK
open PK.Spec

theorem omaha_by_rules (ht : HandType) (hkind : ht.cardCount = 5) (key : List Card → List Nat)
    (P : List Card → Prop)
    (hacc : ∀ a b, FiveCards a → FiveCards b → P a → P b →
      ∃ x y, mkHand Tables.build ht a = .ok x ∧ mkHand Tables.build ht b = .ok y ∧
        (x.entry.index < y.entry.index ↔ lexLt (key a) (key b) = true))
    (hrej : ∀ a, FiveCards a → ¬ P a → mkHand Tables.build ht a = .error .valueError)
    (hole board : List Card) (hd : DeckCards (hole ++ board)) :
    (fromGameHoleBoard Tables.build ht hole board = .error .valueError ↔
      ∀ hc bc : List Card, hc.Sublist hole → hc.length = 2 → bc.Sublist board → bc.length = 3 →
        ¬ P (hc ++ bc)) ∧
    (∀ h, fromGameHoleBoard Tables.build ht hole board = .ok h →
      (∃ hc bc : List Card, hc.Sublist hole ∧ hc.length = 2 ∧ bc.Sublist board ∧ bc.length = 3 ∧
        h.cards = hc ++ bc ∧ P (hc ++ bc)) ∧
      ∀ hc bc : List Card, hc.Sublist hole → hc.length = 2 → bc.Sublist board → bc.length = 3 →
        P (hc ++ bc) →
        (if ht.low then lexLt (key (hc ++ bc)) (key h.cards) else lexLt (key h.cards) (key (hc ++ bc))) = false) ∧
    fromGameHoleBoard Tables.build ht hole board ≠ .error .keyError := by
  let F : List Card → Prop := fun c => ∃ hc bc : List Card,
    hc.Sublist hole ∧ hc.length = 2 ∧ bc.Sublist board ∧ bc.length = 3 ∧ c = hc ++ bc
  have hr := fromGameHoleBoard_best ht Tables.build hole board fun c hc => (hd.known c hc).1
  simp only [HandType.holeCardCount, HandType.boardCardCount, hkind, mem_combinations] at hr
  have hr' : BestOf ht (fromGameHoleBoard Tables.build ht hole board)
      (fun x => ∃ c, F c ∧ mkHand Tables.build ht c = x) := by
    -- a selection of five of two and three cards is all of them
    refine (BestOf.congr ht fun x => ⟨?_, ?_⟩).1 hr
    · rintro ⟨hc, ⟨h1, l1⟩, bc, ⟨h2, l2⟩, c, ⟨hs, l5⟩, e⟩
      have : c = hc ++ bc := hs.eq_of_length (by simp [l1, l2, l5])
      exact ⟨c, ⟨hc, bc, h1, l1, h2, l2, this⟩, e⟩
    · rintro ⟨_, ⟨hc, bc, h1, l1, h2, l2, rfl⟩, e⟩
      exact ⟨hc, ⟨h1, l1⟩, bc, ⟨h2, l2⟩, _, ⟨List.Sublist.refl _, by simp [l1, l2]⟩, e⟩
  obtain ⟨hve, hok, hnk⟩ := BestOf.by_rules (key := key) hacc hrej (F := F)
    (fun c ⟨hc, bc, h1, l1, h2, l2, e⟩ => hd.five (e ▸ h1.append h2) (by simp [e, l1, l2])) hr'
  refine ⟨hve.trans ⟨fun H hc bc h1 l1 h2 l2 => H _ ⟨hc, bc, h1, l1, h2, l2, rfl⟩,
    fun H c ⟨hc, bc, h1, l1, h2, l2, e⟩ => e ▸ H hc bc h1 l1 h2 l2⟩, fun h hh => ?_, hnk⟩
  obtain ⟨⟨hc, bc, h1, l1, h2, l2, e⟩, hP, hbest⟩ := hok h hh
  exact ⟨⟨hc, bc, h1, l1, h2, l2, e, e ▸ hP⟩,
    fun hc' bc' h1' l1' h2' l2' hP' => hbest _ ⟨hc', bc', h1', l1', h2', l2', rfl⟩ hP'⟩

theorem C05_omaha_by_rules (hole board : List Card) (hd : DeckCards (hole ++ board)) :
    (fromGameHoleBoard Tables.build .omaha hole board = .error .valueError ↔
      ∀ hc bc : List Card, hc.Sublist hole → hc.length = 2 → bc.Sublist board → bc.length = 3 → ¬ True) ∧
    (∀ h, fromGameHoleBoard Tables.build .omaha hole board = .ok h →
      (∃ hc bc : List Card, hc.Sublist hole ∧ hc.length = 2 ∧ bc.Sublist board ∧ bc.length = 3 ∧
        h.cards = hc ++ bc ∧ True) ∧
      ∀ hc bc : List Card, hc.Sublist hole → hc.length = 2 → bc.Sublist board → bc.length = 3 → True →
        lexLt (standardKeyOf h.cards) (standardKeyOf (hc ++ bc)) = false) ∧
    fromGameHoleBoard Tables.build .omaha hole board ≠ .error .keyError :=
  omaha_by_rules .omaha rfl standardKeyOf (fun _ => True) (standard_acc _ rfl)
    (fun _ _ hn => absurd trivial hn) hole board hd

theorem C05_omaha8_by_rules (hole board : List Card) (hd : DeckCards (hole ++ board)) :
    (fromGameHoleBoard Tables.build .omaha8 hole board = .error .valueError ↔
      ∀ hc bc : List Card, hc.Sublist hole → hc.length = 2 → bc.Sublist board → bc.length = 3 →
        ¬ QualifiesEight (hc ++ bc)) ∧
    (∀ h, fromGameHoleBoard Tables.build .omaha8 hole board = .ok h →
      (∃ hc bc : List Card, hc.Sublist hole ∧ hc.length = 2 ∧ bc.Sublist board ∧ bc.length = 3 ∧
        h.cards = hc ++ bc ∧ QualifiesEight (hc ++ bc)) ∧
      ∀ hc bc : List Card, hc.Sublist hole → hc.length = 2 → bc.Sublist board → bc.length = 3 →
        QualifiesEight (hc ++ bc) →
        lexLt (eightKeyOf (hc ++ bc)) (eightKeyOf h.cards) = false) ∧
    fromGameHoleBoard Tables.build .omaha8 hole board ≠ .error .keyError :=
  omaha_by_rules .omaha8 rfl eightKeyOf QualifiesEight (eight_acc _ rfl)
    (C04_eight_rejects .omaha8 rfl) hole board hd

end PK
