/-
  C05 ∘ C04 — **the hand a player is credited with is the best five of his cards under the rules of
  poker**.  `C05_standard` says `from_game` returns a valid five-card selection of maximal table
  strength (or none when no selection is valid); `PK.Properties.C04Table` says which selections are
  valid and that table strength is the order of the rules; together, for hole and board cards that are
  distinct known cards of the 52-card deck (any numbers of them — Texas hold'em: 2 + 3…5; stud and razz:
  7 + 0; draw: 5 + 0):

  * `C05_best_by_rules`        StandardHighHand (hold'em, stud, five-card draw) and StandardLowHand
                               (deuce-to-seven): the hand returned is five of the cards, and no five of
                               the cards rank strictly above it under `PK.Spec.standardKey` (strictly
                               below, for the low type); there always is one when there are five cards;
  * `C05_short_deck_by_rules`  ShortDeckHoldemHand, for cards of the ranks 6 … A;
  * `C05_razz_by_rules`        RegularLowHand: no five of the cards make a lower ace-to-five hand;
  * `C05_eight_by_rules`       EightOrBetterLowHand: no hand exactly when no five of the cards qualify
                               (five different ranks, eight or lower, ace low); otherwise the lowest
                               qualifying five.
  `C05_eight_by_rules` is an instance of `best_by_rules`, the other three of `best_by_rules_total` (every five of
  the cards are accepted, so five cards suffice for a hand); `best_by_rules` is the case of
  `CombinationHand.from_game` of `BestOf.by_rules` (any `from_game` whose candidates are five distinct cards; Omaha
  is another case).
-/
import PK.Properties.C05
import PK.Properties.C04Table
namespace PK
open PK.Spec

structure DeckCards (cs : List Card) : Prop where
  nodup : cs.Nodup
  known : ∀ c ∈ cs, c.rank < 13 ∧ c.suit < 4

theorem DeckCards.five {cs c : List Card} (h : DeckCards cs) (hs : c.Sublist cs) (hl : c.length = 5) :
    FiveCards c :=
  ⟨hl, hs.nodup h.nodup, fun x hx => h.known x (hs.subset hx)⟩

theorem mkHand_cards {T : Tables} {ht : HandType} {cs : List Card} {h : Hand}
    (hm : mkHand T ht cs = .ok h) : h.cards = cs := by
  rw [mkHand_eq] at hm
  split at hm
  · cases hm
  · split at hm
    · split at hm <;> cases hm
      rfl
    · cases hm

theorem fromGameCombination_self {T : Tables} {ht : HandType} {hole board : List Card} {h : Hand}
    (hk : Known (hole ++ board)) (hres : fromGameCombination T ht hole board = .ok h) :
    mkHand T ht h.cards = .ok h := by
  obtain ⟨⟨c, _, hm⟩, _⟩ := (C05_standard ht T hole board hk).2.1 h hres
  rwa [mkHand_cards hm]

def OrdersBy (T : Tables) (ht : HandType) (key : List Card → List Nat) (P : List Card → Prop) : Prop :=
  ∀ a b, FiveCards a → FiveCards b → P a → P b →
    ∃ x y, mkHand T ht a = .ok x ∧ mkHand T ht b = .ok y ∧
      (x.entry.index < y.entry.index ↔ lexLt (key a) (key b) = true)

/-- `F`: the card lists a `from_game` chooses among; `P`: the five-card hands the constructor of `ht` accepts,
    and orders by `key`.  The verdict is a list of `F` in `P` that the key ranks best: greatest for a high type,
    least for a low type. -/
theorem BestOf.by_rules {T : Tables} {ht : HandType} {key : List Card → List Nat} {P : List Card → Prop}
    (hacc : OrdersBy T ht key P)
    (hrej : ∀ a, FiveCards a → ¬ P a → mkHand T ht a = .error .valueError)
    {F : List Card → Prop} (hF : ∀ c, F c → FiveCards c) {r : Except EvalErr Hand}
    (hr : BestOf ht r (fun x => ∃ c, F c ∧ mkHand T ht c = x)) :
    (r = .error .valueError ↔ ∀ c, F c → ¬ P c) ∧
    (∀ h, r = .ok h → F h.cards ∧ P h.cards ∧ ∀ c, F c → P c →
      (if ht.low then lexLt (key c) (key h.cards) else lexLt (key h.cards) (key c)) = false) ∧
    r ≠ .error .keyError := by
  obtain ⟨hve, hok, hnk⟩ := hr
  refine ⟨hve.trans ⟨fun H c hc hp => ?_, fun H x ⟨c, hc, e⟩ => e ▸ hrej c (hF c hc) (H c hc)⟩,
    fun h hh => ?_, hnk⟩
  · obtain ⟨x, _, hx, _⟩ := hacc c c (hF c hc) (hF c hc) hp hp
    cases hx.symm.trans (H _ ⟨c, hc, rfl⟩)
  · obtain ⟨⟨c, hc, hmk⟩, hmax⟩ := hok h hh
    obtain rfl := mkHand_cards hmk
    have hP : P h.cards := Classical.byContradiction fun hn => by
      cases hmk.symm.trans (hrej _ (hF _ hc) hn)
    refine ⟨hc, hP, fun c' hc' hP' => Bool.eq_false_iff.2 fun hl => ?_⟩
    -- `h` is at least as strong as the hand of `c'`, so the key cannot rank `c'` strictly better
    cases hlow : ht.low with
    | false =>
      obtain ⟨x, y, hx, hy, hlt⟩ := hacc _ c' (hF _ hc) (hF c' hc') hP hP'
      cases hmk.symm.trans hx
      rw [hlow] at hl
      exact Int.not_lt.2 (hmax y ⟨c', hc', hy⟩) ((C04_high_score ht hlow h y).2 (hlt.2 hl))
    | true =>
      obtain ⟨y, x, hy, hx, hlt⟩ := hacc c' _ (hF c' hc') (hF _ hc) hP' hP
      cases hmk.symm.trans hx
      rw [hlow] at hl
      exact Int.not_lt.2 (hmax y ⟨c', hc', hy⟩) ((C04_low_score ht hlow h y).2 (hlt.2 hl))

theorem best_by_rules (ht : HandType) (hcc : ht.cardCount = 5) (key : List Card → List Nat)
    (P : List Card → Prop)
    (hacc : ∀ a b, FiveCards a → FiveCards b → P a → P b →
      ∃ x y, mkHand Tables.build ht a = .ok x ∧ mkHand Tables.build ht b = .ok y ∧
        (x.entry.index < y.entry.index ↔ lexLt (key a) (key b) = true))
    (hrej : ∀ a, FiveCards a → ¬ P a → mkHand Tables.build ht a = .error .valueError)
    (hole board : List Card) (hd : DeckCards (hole ++ board)) :
    (fromGameCombination Tables.build ht hole board = .error .valueError ↔
      ∀ c : List Card, c.Sublist (hole ++ board) → c.length = 5 → ¬ P c) ∧
    (∀ h, fromGameCombination Tables.build ht hole board = .ok h →
      h.cards.Sublist (hole ++ board) ∧ h.cards.length = 5 ∧ P h.cards ∧
      ∀ c : List Card, c.Sublist (hole ++ board) → c.length = 5 → P c →
        (if ht.low then lexLt (key c) (key h.cards) else lexLt (key h.cards) (key c)) = false) ∧
    fromGameCombination Tables.build ht hole board ≠ .error .keyError := by
  have hr := fromGameCombination_best ht Tables.build hole board fun c hc => (hd.known c hc).1
  simp only [hcc, mem_combinations] at hr
  simpa only [and_imp, and_assoc] using
    BestOf.by_rules hacc hrej (F := fun c => c.Sublist (hole ++ board) ∧ c.length = 5)
      (fun c hc => hd.five hc.1 hc.2) hr

theorem best_by_rules_total (ht : HandType) (hcc : ht.cardCount = 5) (key : List Card → List Nat)
    (P : List Card → Prop)
    (hacc : OrdersBy Tables.build ht key P)
    (hrej : ∀ a, FiveCards a → ¬ P a → mkHand Tables.build ht a = .error .valueError)
    (hole board : List Card) (hd : DeckCards (hole ++ board))
    (hall : ∀ c : List Card, c.Sublist (hole ++ board) → P c)
    (hlen : 5 ≤ (hole ++ board).length) :
    ∃ h, fromGameCombination Tables.build ht hole board = .ok h ∧
      h.cards.Sublist (hole ++ board) ∧ h.cards.length = 5 ∧
      ∀ c : List Card, c.Sublist (hole ++ board) → c.length = 5 →
        (if ht.low then lexLt (key c) (key h.cards) else lexLt (key h.cards) (key c)) = false := by
  obtain ⟨hnone, hbest, hnk⟩ := best_by_rules ht hcc key P hacc hrej hole board hd
  match hres : fromGameCombination Tables.build ht hole board with
  | .ok h =>
    obtain ⟨a, b, _, d⟩ := hbest h hres
    exact ⟨h, rfl, a, b, fun c hs hl => d c hs hl (hall c hs)⟩
  | .error .keyError => exact absurd hres hnk
  | .error .valueError =>
    have h5 : ((hole ++ board).take 5).length = 5 := by rw [List.length_take]; omega
    exact absurd (hall _ (List.take_sublist 5 _)) (hnone.1 hres _ (List.take_sublist 5 _) h5)

def standardKeyOf (cs : List Card) : List Nat := standardKey (cs.map (·.rank)) (areSuited cs)
def shortDeckKeyOf (cs : List Card) : List Nat := shortDeckKey (cs.map (·.rank)) (areSuited cs)
def razzKeyOf (cs : List Card) : List Nat := regularLowKey (cs.map (·.rank)) (areSuited cs)
def eightKeyOf (cs : List Card) : List Nat := eightOrBetterKey (cs.map (·.rank)) (areSuited cs)

theorem standard_acc (ht : HandType) (hl : ht.lookup = .standard) :
    OrdersBy Tables.build ht standardKeyOf (fun _ => True) := fun a b ha hb _ _ => by
  obtain ⟨x, y, hx, hy, _, hlt, _⟩ := C04_standard_table ht hl a b ha hb
  exact ⟨x, y, hx, hy, hlt⟩

theorem eight_acc (ht : HandType) (hl : ht.lookup = .eightOrBetter) :
    OrdersBy Tables.build ht eightKeyOf QualifiesEight := fun a b ha hb pa pb => by
  obtain ⟨x, y, hx, hy, hlt, _⟩ := C04_eight_table ht hl a b ha hb pa pb
  exact ⟨x, y, hx, hy, hlt⟩

theorem C05_best_by_rules (ht : HandType) (hht : ht = .standardHigh ∨ ht = .standardLow)
    (hole board : List Card) (hd : DeckCards (hole ++ board)) (hlen : 5 ≤ (hole ++ board).length) :
    ∃ h, fromGameCombination Tables.build ht hole board = .ok h ∧
      h.cards.Sublist (hole ++ board) ∧ h.cards.length = 5 ∧
      ∀ c : List Card, c.Sublist (hole ++ board) → c.length = 5 →
        (if ht.low then lexLt (standardKeyOf c) (standardKeyOf h.cards)
         else lexLt (standardKeyOf h.cards) (standardKeyOf c)) = false := by
  have hl : ht.lookup = .standard := by rcases hht with rfl | rfl <;> rfl
  have hcc : ht.cardCount = 5 := by rcases hht with rfl | rfl <;> rfl
  exact best_by_rules_total ht hcc standardKeyOf (fun _ => True) (standard_acc ht hl)
    (fun _ _ hn => absurd trivial hn) hole board hd (fun _ _ => trivial) hlen

theorem C05_short_deck_by_rules (hole board : List Card) (hd : DeckCards (hole ++ board))
    (hshort : ∀ c ∈ hole ++ board, isShortRank c.rank = true) (hlen : 5 ≤ (hole ++ board).length) :
    ∃ h, fromGameCombination Tables.build .shortDeck hole board = .ok h ∧
      h.cards.Sublist (hole ++ board) ∧ h.cards.length = 5 ∧
      ∀ c : List Card, c.Sublist (hole ++ board) → c.length = 5 →
        lexLt (shortDeckKeyOf h.cards) (shortDeckKeyOf c) = false := by
  refine best_by_rules_total .shortDeck rfl shortDeckKeyOf (fun a => ∀ c ∈ a, isShortRank c.rank = true)
    (fun a b ha hb pa pb => ?_) (fun a ha hn => C04_short_deck_rejects a ha ?_) hole board hd
    (fun c hs x hx => hshort x (hs.subset hx)) hlen
  · obtain ⟨x, y, hx, hy, _, hlt, _⟩ := C04_short_deck_table a b ha hb pa pb
    exact ⟨x, y, hx, hy, hlt⟩
  · simpa using hn

theorem C05_razz_by_rules (hole board : List Card) (hd : DeckCards (hole ++ board))
    (hlen : 5 ≤ (hole ++ board).length) :
    ∃ h, fromGameCombination Tables.build .regularLow hole board = .ok h ∧
      h.cards.Sublist (hole ++ board) ∧ h.cards.length = 5 ∧
      ∀ c : List Card, c.Sublist (hole ++ board) → c.length = 5 →
        lexLt (razzKeyOf c) (razzKeyOf h.cards) = false := by
  refine best_by_rules_total .regularLow rfl razzKeyOf (fun _ => True) (fun a b ha hb _ _ => ?_)
    (fun _ _ hn => absurd trivial hn) hole board hd (fun _ _ => trivial) hlen
  obtain ⟨x, y, hx, hy, _, hlt, _⟩ := C04_regular_low_table a b ha hb
  exact ⟨x, y, hx, hy, hlt⟩

theorem C05_eight_by_rules (hole board : List Card) (hd : DeckCards (hole ++ board)) :
    (fromGameCombination Tables.build .eightOrBetterLow hole board = .error .valueError ↔
      ∀ c : List Card, c.Sublist (hole ++ board) → c.length = 5 → ¬ QualifiesEight c) ∧
    (∀ h, fromGameCombination Tables.build .eightOrBetterLow hole board = .ok h →
      h.cards.Sublist (hole ++ board) ∧ h.cards.length = 5 ∧ QualifiesEight h.cards ∧
      ∀ c : List Card, c.Sublist (hole ++ board) → c.length = 5 → QualifiesEight c →
        lexLt (eightKeyOf c) (eightKeyOf h.cards) = false) ∧
    fromGameCombination Tables.build .eightOrBetterLow hole board ≠ .error .keyError :=
  best_by_rules .eightOrBetterLow rfl eightKeyOf QualifiesEight (eight_acc _ rfl)
    (C04_eight_rejects .eightOrBetterLow rfl) hole board hd

end PK
