/-
  C06 — Cards are conserved: each card is in exactly one place, dealt from the deck.

  `allCards s` lists the six places a card can be.  `CardsOk cfg s` says that this list is a
  permutation of the configured deck (so, the deck being duplicate-free, no card is lost or
  duplicated).  Theorems about the helper functions every card operation is built from, for every
  shuffle that is a permutation:

  * `C06_init`              the freshly set-up state
  * `C06_muck`              fold / muck / kill: the player's cards go to the muck, nothing else moves
  * `C06_consume_from_deck` taking cards that lie in no reserved pile, without a replenish (the engine's
                            choice whenever the deck suffices): they leave the deck, nothing else changes
  * `C06_replenish`         when the deck does not suffice: burns, muck and discards are shuffled
                            back under the remaining deck and their piles emptied — all cards kept
  * `C06_burn`, `C06_deal_hole`   placing the consumed cards on the burn pile / in a hand: every card still in
                            exactly one place
  * `C06_discard_perm`      a discard takes exactly the card discarded out of the hand
  * `board_fold_perm`       the loop of `deal_board` puts exactly the cards dealt on the boards
  * `C06_engine_choice`     the cards the engine picks (`_verify_cards_consumption(n)`) are the
                            top of the deck, continued by the shuffled reserved cards only when the
                            deck runs out
  That every micro-step keeps every card in exactly one place is `PK.Properties.C06Step`.  Of the theorems above it
  uses `C06_init` and `board_fold_perm`; otherwise it rests on the lemmas between them (`allCards_exchange`,
  `muck_perm`, `consume_eq`, `replenished_rest`).
-/
import PK.Proofs.Frames
import Mathlib.Algebra.Order.Group.Multiset
namespace PK
open State M

variable {cfg : Config} {env : Env}

def allCards (s : State) : List Card :=
  s.deck ++ s.board.flatten ++ s.hole.flatten ++ s.burned ++ s.mucked ++ s.discarded.flatten

def CardsOk (cfg : Config) (s : State) : Prop := (allCards s).Perm cfg.deck

/-- the cards out of play: the deck and the three reserve piles -/
def rest (s : State) : List Card := s.deck ++ s.burned ++ s.mucked ++ s.discarded.flatten
def inplay (s : State) : List Card := s.board.flatten ++ s.hole.flatten

theorem C06_init (hshuf : ∀ l, (env.shuffle l).Perm l) : CardsOk cfg (setup cfg env) := by
  unfold CardsOk allCards setup
  simp only [List.flatten_replicate_nil, List.flatten_nil, List.append_nil]
  exact hshuf _

/-- permutation goals over `++` and `[]` are multiset identities -/
macro "perm_ac" : tactic =>
  `(tactic| (rw [← Multiset.coe_eq_coe]; simp only [List.nil_append, List.append_nil, ← Multiset.coe_add]; ac_rfl))

theorem allCards_split (s : State) : (allCards s).Perm (rest s ++ inplay s) := by
  unfold allCards rest inplay
  perm_ac

/-- two heaps `A`, `B` after an exchange: the cards `X` went from `A` to `B`, the cards `Y` from `B` to `A` -/
theorem perm_exchange {A A' B B' : List Card} (X Y : List Card) (ha : (X ++ A').Perm (Y ++ A))
    (hb : (Y ++ B').Perm (X ++ B)) : (A' ++ B').Perm (A ++ B) := by
  have e : ((X ++ Y) ++ (A' ++ B')).Perm ((X ++ A') ++ (Y ++ B')) := by perm_ac
  refine (List.perm_append_left_iff (X ++ Y)).1 (e.trans ((ha.append hb).trans ?_))
  perm_ac

theorem allCards_exchange {s s' : State} (X Y : List Card) (hr : (X ++ rest s').Perm (Y ++ rest s))
    (hi : (Y ++ inplay s').Perm (X ++ inplay s)) : (allCards s').Perm (allCards s) :=
  ((allCards_split s').trans (perm_exchange X Y hr hi)).trans (allCards_split s).symm

theorem nodup_of_subperm {l₁ l₂ : List Card} (h : l₁.Subperm l₂) (hn : l₂.Nodup) : l₁.Nodup :=
  let ⟨_, hp, hs⟩ := h
  hp.nodup_iff.1 (hs.nodup hn)

theorem lt_of_mem_getD {l : List (List Card)} {i : Nat} {c : Card} (h : c ∈ l.getD i []) : i < l.length := by
  by_contra hn
  rw [List.getD_eq_getElem?_getD, List.getElem?_eq_none (Nat.le_of_not_gt hn)] at h
  cases h

/-- replacing row `i` of a table of rows; `new = []`: emptying a row that is not there changes nothing -/
theorem flatten_set : ∀ (l : List (List Card)) (i : Nat) (new : List Card), i < l.length ∨ new = [] →
    (l.getD i [] ++ (l.set i new).flatten).Perm (new ++ l.flatten)
  | [], _, _, h => by
    rcases h with h | rfl
    · cases h
    · rfl
  | x :: xs, 0, new, _ => List.perm_append_comm_assoc x new xs.flatten
  | x :: xs, i + 1, new, h =>
    (List.perm_append_comm_assoc _ x _).trans
      (((flatten_set xs i new (h.imp_left Nat.lt_of_succ_lt_succ)).append_left x).trans
        (List.perm_append_comm_assoc x new _))

theorem flatten_set_append (l : List (List Card)) (p : Nat) (cards : List Card) (hp : p < l.length) :
    (l.set p (l.getD p [] ++ cards)).flatten.Perm (cards ++ l.flatten) :=
  (List.perm_append_left_iff (l.getD p [])).1
    ((flatten_set l p _ (.inl hp)).trans (.of_eq (List.append_assoc ..)))

theorem flatten_set_erase (l : List (List Card)) (p : Nat) {c : Card} (hc : c ∈ l.getD p []) :
    (c :: (l.set p ((l.getD p []).erase c)).flatten).Perm l.flatten :=
  (List.perm_append_left_iff ((l.getD p []).erase c)).1 (List.perm_middle.trans
    (((List.perm_cons_erase hc).symm.append_right _).trans (flatten_set l p _ (.inl (lt_of_mem_getD hc)))))

theorem inplay_set_hole {s s' : State} {p : Nat} {H : List Card} (hh : s'.hole = s.hole.set p H)
    (hb : s'.board = s.board) (hp : p < s.hole.length ∨ H = []) :
    (s.holeOf p ++ inplay s').Perm (H ++ inplay s) := by
  unfold inplay
  rw [hh, hb]
  exact (List.perm_append_comm_assoc ..).trans
    (((flatten_set s.hole p H hp).append_left _).trans (List.perm_append_comm_assoc ..))

theorem muck_perm {s s' : State} {i : Nat} (h : s.muckHoleCards i = .ok s') : (allCards s').Perm (allCards s) := by
  rw [muckHoleCards_ok h]
  refine allCards_exchange [] (s.holeOf i) ?_ (inplay_set_hole rfl rfl (.inr rfl))
  unfold rest
  perm_ac

theorem C06_muck {s s' : State} {i : Nat} (hi : i < s.hole.length)
    (h : s.muckHoleCards i = .ok s') :
    s'.mucked = s.mucked ++ s.holeOf i ∧ s'.holeOf i = [] ∧ s'.deck = s.deck ∧ s'.board = s.board ∧
    s'.burned = s.burned ∧ s'.discarded = s.discarded ∧ (allCards s').Perm (allCards s) := by
  refine ⟨?_, ?_, ?_, ?_, ?_, ?_, muck_perm h⟩
  all_goals rw [muckHoleCards_ok h]
  simp [State.holeOf, hi]

/-- the loop of `_consume_cards` -/
def eraseAll (cards : List Card) (t : State) : State :=
  cards.foldl (fun s c =>
    { s with deck := s.deck.erase c, burned := s.burned.erase c, mucked := s.mucked.erase c,
             discarded := s.discarded.map (·.erase c) }) t

theorem eraseAll_eq : ∀ (cards : List Card) (t : State), eraseAll cards t = { t with
    deck := t.deck.diff cards, burned := t.burned.diff cards, mucked := t.mucked.diff cards
    discarded := t.discarded.map (·.diff cards) }
  | [], t => by simp [eraseAll]
  | c :: cs, t => by
    refine (eraseAll_eq cs _).trans ?_
    simp only [List.diff_cons, List.map_map]
    rfl

/-- the state `_consume_cards` continues with after shuffling the reserve back under the deck -/
def replenished (env : Env) (s : State) : State :=
  let s1 := s.produceCards (env.shuffle s.reservedCards)
  { s1 with mucked := [], burned := [], discarded := s1.discarded.map fun _ => [] }

theorem consume_eq (s : State) (cards : List Card) :
    s.consumeCards env cards =
      eraseAll cards (if strictSuperset cards s.deck then replenished env s else s) := rfl

theorem consume_hole (t : State) (X : List (List Card)) (cs : List Card) :
    ({ t with hole := X }).consumeCards env cs = { t.consumeCards env cs with hole := X } := by
  simp only [consume_eq, eraseAll_eq]
  split <;> rfl

theorem diff_of_not_mem {l : List Card} : ∀ {cards : List Card}, (∀ c ∈ cards, c ∉ l) → l.diff cards = l
  | [], _ => rfl
  | c :: cs, h => by
    rw [List.diff_cons, List.erase_of_not_mem (h c List.mem_cons_self)]
    exact diff_of_not_mem fun x hx => h x (List.mem_cons_of_mem _ hx)

theorem append_diff_perm {l cards : List Card} (h : cards.Subperm l) : (cards ++ l.diff cards).Perm l :=
  List.subperm_append_diff_self_of_count_le (List.subperm_ext_iff.1 h)

theorem subperm_append_diff (H own : List Card) : H.Subperm (own ++ H.diff own) := by
  rw [← Multiset.coe_le, ← Multiset.coe_add, ← Multiset.coe_sub]
  exact le_add_tsub

theorem C06_consume_from_deck (s : State) (cards : List Card)
    (hres : ∀ c ∈ cards, c ∉ s.burned ∧ c ∉ s.mucked ∧ ∀ l ∈ s.discarded, c ∉ l)
    (hno : strictSuperset cards s.deck = false) :
    s.consumeCards env cards = { s with deck := s.deck.diff cards } := by
  rw [consume_eq, hno, if_neg Bool.false_ne_true, eraseAll_eq, diff_of_not_mem fun c hc => (hres c hc).1,
    diff_of_not_mem fun c hc => (hres c hc).2.1,
    (List.map_congr_left fun l hl => diff_of_not_mem fun c hc => (hres c hc).2.2 l hl).trans (List.map_id _)]

/-- cards that all lie in the deck never trigger a replenish -/
theorem C06_no_early_replenish (cards deck : List Card) (hsub : ∀ c ∈ cards, c ∈ deck) :
    strictSuperset cards deck = false := by
  unfold strictSuperset
  have : (cards.any fun c => !deck.contains c) = false := by
    rw [List.any_eq_false]
    intro c hc
    simp [hsub c hc]
  rw [this, Bool.and_false]

theorem C06_engine_choice (s : State) (k : Int) (hk : 0 ≤ k) {v : Verdict (List Card)}
    (h : s.verifyCardsConsumption cfg env (.count k) = .ok v) :
    v.warned = false ∧
    (k ≤ s.deck.length → v.val = s.deck.take k.toNat) ∧
    (k > s.deck.length → v.val = (s.deck ++ env.shuffle s.reservedCards).take k.toNat) := by
  unfold State.verifyCardsConsumption at h
  simp only at h
  split at h
  · cases h
  · cases h
    unfold State.dealableCards
    simp only [pyTake, hk, if_true]
    refine ⟨trivial, fun hle => ?_, fun hgt => ?_⟩
    · simp [Int.not_lt.2 hle]
    · simp [hgt]

theorem C06_discard_perm (own : List Card) (c : Card) (hc : c ∈ own) :
    (c :: own.eraseIdx (own.idxOf c)).Perm own := by
  rw [← List.erase_eq_eraseIdx_of_idxOf rfl]
  exact (List.perm_cons_erase hc).symm

theorem C06_burn (s : State) (c : Card) (hc : c ∈ s.deck)
    (hres : c ∉ s.burned ∧ c ∉ s.mucked ∧ ∀ l ∈ s.discarded, c ∉ l) :
    let cs := s.consumeCards env [c]
    (allCards { cs with cardBurning := false, burned := cs.burned ++ [c] }).Perm (allCards s) := by
  intro cs
  unfold allCards
  simp only [cs, C06_consume_from_deck (env := env) s [c] (by simpa using hres)
    (C06_no_early_replenish _ _ (by simpa using hc)), List.append_assoc]
  exact perm_exchange [c] [] (append_diff_perm (List.subperm_of_subset (by simp) (by simpa using hc))) (by perm_ac)

theorem C06_deal_hole (s : State) (cards : List Card) (p : Nat) (hp : p < s.hole.length)
    (hnd : cards.Nodup) (hsub : ∀ c ∈ cards, c ∈ s.deck)
    (hres : ∀ c ∈ cards, c ∉ s.burned ∧ c ∉ s.mucked ∧ ∀ l ∈ s.discarded, c ∉ l) :
    let cs := s.consumeCards env cards
    (allCards { cs with hole := cs.hole.set p (cs.holeOf p ++ cards) }).Perm (allCards s) := by
  intro cs
  unfold allCards
  simp only [cs, C06_consume_from_deck (env := env) s cards hres (C06_no_early_replenish _ _ hsub), List.append_assoc,
    State.holeOf]
  refine perm_exchange cards [] (append_diff_perm (List.subperm_of_subset hnd hsub))
    (((flatten_set_append s.hole p cards hp).append_right _).append_left _ |>.trans ?_)
  perm_ac

theorem boardStep_ok {b0 b : List (List Card)} {i0 i : Int} {c : Card}
    (h : boardStep (.ok (b0, i0)) c = .ok (b, i)) : b.flatten.Perm (c :: b0.flatten) := by
  unfold boardStep at h
  simp only at h
  split at h
  · cases h
  · split at h
    · cases h
    · cases h
      refine (flatten_set_append _ i0.toNat [c] ?_).trans (.of_eq ?_)
      · split
        · rename_i he
          rw [List.length_append, ← Int.toNat_natCast b0.length, ← beq_iff_eq.1 he]
          exact Nat.lt_succ_self _
        · rename_i he
          have := beq_iff_eq.not.1 he
          omega
      · split <;> simp

theorem board_fold_perm : ∀ (cards : List Card) (b0 : List (List Card)) (i0 : Int)
    (b : List (List Card)) (i : Int),
    cards.foldl boardStep (.ok (b0, i0)) = .ok (b, i) → b.flatten.Perm (cards ++ b0.flatten)
  | [], b0, i0, b, i, h => by
    cases h
    rfl
  | c :: cs, b0, i0, b, i, h => by
    obtain ⟨r, hs, h⟩ := foldlE_cons (fun _ _ => rfl) h
    exact (board_fold_perm cs r.1 r.2 b i h).trans (((boardStep_ok hs).append_left cs).trans List.perm_middle)

/-- the loop of `_produce_cards` -/
theorem produce_fold : ∀ (l d : List Card), (d ++ l).Nodup →
    l.foldl (fun d c => if d.contains c then d else d ++ [c]) d = d ++ l
  | [], d, _ => (List.append_nil d).symm
  | c :: cs, d, h => by
    have hc : c ∉ d := fun hm => (List.nodup_append.1 h).2.2 c hm c List.mem_cons_self rfl
    rw [List.foldl_cons, if_neg (by simpa using hc), produce_fold cs (d ++ [c]) (by simpa using h)]
    exact List.append_assoc ..

theorem produceCards_eq {s : State} {cards : List Card} (hnd : (s.deck ++ cards).Nodup)
    (hk : ∀ c ∈ cards, c.known = true) : s.produceCards cards = { s with deck := s.deck ++ cards } := by
  unfold State.produceCards
  rw [List.filter_eq_self.2 hk, produce_fold _ _ hnd]

theorem rest_eq (s : State) : rest s = s.deck ++ (s.burned ++ s.mucked ++ s.discarded.flatten) := by
  simp only [rest, List.append_assoc]

theorem replenished_rest (hshuf : ∀ l, (env.shuffle l).Perm l) {s : State}
    (hnd : (rest s).Nodup) (hk : ∀ c ∈ rest s, c.known = true) : (rest (replenished env s)).Perm (rest s) := by
  have hres : s.reservedCards = s.burned ++ s.mucked ++ s.discarded.flatten :=
    List.filter_eq_self.2 fun c hc => hk c (by rw [rest_eq]; exact List.mem_append_right _ hc)
  have hp : (s.deck ++ env.shuffle s.reservedCards).Perm (rest s) := by
    rw [rest_eq, ← hres]
    exact (hshuf _).append_left _
  unfold replenished
  rw [produceCards_eq (hp.nodup_iff.2 hnd) fun c hc => hk c (hp.subset (List.mem_append_right _ hc))]
  refine List.Perm.trans (.of_eq ?_) hp
  simp [rest]

theorem C06_replenish (hshuf : ∀ l, (env.shuffle l).Perm l) (s : State)
    (hnd : (allCards s).Nodup) (hknown : ∀ c ∈ allCards s, c.known = true) :
    let s1 := s.produceCards (env.shuffle s.reservedCards)
    (allCards { s1 with mucked := [], burned := [], discarded := s1.discarded.map fun _ => [] }).Perm
      (allCards s) := by
  have hs := allCards_split s
  exact allCards_exchange [] [] (replenished_rest hshuf (hs.nodup_iff.1 hnd).of_append_left
    fun c hc => hknown c (hs.mem_iff.2 (List.mem_append_left _ hc))) (.refl _)

end PK
