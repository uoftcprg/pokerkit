/-
  C06, lifted to every micro-step — **every card of the configured deck is in exactly one place at every
  point of every history**, as long as no dealability warning was issued and no unknown card was dealt.

  * `C06_step`       one micro-step of the machine — any public operation with any arguments, any
                     `_begin/_update/_end` method, i.e. also every operation fired by automation —
                     keeps `CardInv` (the six places together are a permutation of the deck; the table of
                     hands has one row per player), provided
                       (a) the pending operation names known cards only, and a show leaves no unknown card
                           in the hand (`CleanHead`: `None` / a count / known cards; `None` / `True` / `False`
                           / named cards that, with the cards kept, fill the hand),
                       (b) the step raises no dealability warning (`warned = false`),
                       (c) the step does not end in an escaping exception,
                       (d) a discard happens with a street index inside the table of discards
                           (`DrawInRange`; checked on every step of every trace by the driver);
  * `C06_reachable`  hence at every point reachable from the constructor by operations and cascades
                     satisfying (a)–(d);
  * `C06_exactly_once`  which says: every card of the deck occurs exactly once in deck ∪ boards ∪ hands
                     ∪ burns ∪ muck ∪ discards, and nothing else occurs at all;
  * `C06_request_distinct`  what (b) buys: a dealing request that passes without a warning names
                     distinct cards that are out of play (repair 2d08528: each card of the request takes one
                     copy out of the dealable cards, so a card named twice draws the warning).

  The proof: a frame lemma (`cv_frame`: 49 of the 56 frame kinds do not touch a card) and one lemma per
  card operation (`PK.Proofs.CardsOps`, `PK.Proofs.CardsShow`), each reduced to `consume_rest` (for a state that
  satisfies the invariant: `consume_spec`): distinct cards that are out of play leave the piles exactly once,
  whichever pile they are in and whether or not the reserve is shuffled back under the deck first.
-/
import PK.Proofs.CardsShow
namespace PK
open State M

variable {cfg : Config} {env : Env}

/-- a show with named cards leaves no unknown card in the hand (it names a card for every slot, or happens
    before the last street, where the cards not named are kept) -/
def ShowKnown (cfg : Config) (env : Env) (s : State) : ShowArg → Option Nat → Prop
  | .cards cs, i => ∀ v, s.verifyShow cfg env (.cards cs) i = .ok v → ∀ c ∈ v.val.holeCards, c.known = true
  | _, _ => True

/-- (a): the pending operation names known cards only, and a show leaves no unknown card in the hand -/
def CleanHead (cfg : Config) (env : Env) (m : M) : Prop :=
  match m.ctl with
  | .opBurn a :: _ => a.clean
  | .opDealHole a _ :: _ => a.clean
  | .opDealBoard a :: _ => a.clean
  | .opShow a i :: _ => ShowKnown cfg env m.st a i
  | _ => True

theorem C06_init' (hshuf : ∀ l, (env.shuffle l).Perm l) : CardInv cfg (setup cfg env) :=
  ⟨C06_init hshuf, by simp [setup]⟩

theorem C06_step (hd : DeckOk cfg) (hshuf : ∀ l, (env.shuffle l).Perm l) (m : M) (h : CardInv cfg m.st)
    (hc : CleanHead cfg env m) (hr : DrawInRange m)
    (hw : (step cfg env m).warned = false) (herr : (step cfg env m).err = none) :
    CardInv cfg (step cfg env m).st := by
  refine step_writers (cv_frame m) h.of_cv fun f rest' hctl hf => ?_
  unfold CleanHead at hc
  rw [hctl] at hc
  cases f <;> cases hf
  case opBurn a => exact cstep_opBurn hd hshuf m h a rest' hctl hc hw
  case opDealHole a i => exact cstep_opDealHole hd hshuf m h a i rest' hctl hc hw
  case opDealBoard a => exact cstep_opDealBoard hd hshuf m h a rest' hctl hc hw herr
  case opDraw cs => exact cstep_opDraw m h cs rest' hctl hr
  case opFold => exact cstep_opFold m h rest' hctl
  case opKill i => exact cstep_opKill m h i rest' hctl
  case opShow a i =>
    cases a with
    | cards cs => exact cstep_opShow_cards hd hshuf m h cs i rest' hctl hc hw
    | none => exact cstep_opShow hd hshuf m h .none i rest' hctl trivial
    | status b => exact cstep_opShow hd hshuf m h (.status b) i rest' hctl trivial

/-- histories: from the constructor, by micro-steps satisfying (a)–(d) and by putting a frame on the empty control
    stack; `op` takes any frame `o : Ctl`, the public operations with any arguments among them -/
inductive CardReach (cfg : Config) (env : Env) : M → Prop where
  | init : CardReach cfg env { st := setup cfg env, ctl := [.beginAnte] }
  | step {m} : CardReach cfg env m → CleanHead cfg env m → DrawInRange m →
      (step cfg env m).warned = false → (step cfg env m).err = none → CardReach cfg env (step cfg env m)
  | op {m} (o : Ctl) : CardReach cfg env m → m.ctl = [] →
      CardReach cfg env { m with ctl := [o], err := none, warned := false }

theorem C06_reachable (hd : DeckOk cfg) (hshuf : ∀ l, (env.shuffle l).Perm l) {m : M}
    (h : CardReach cfg env m) : CardInv cfg m.st := by
  induction h with
  | init => exact C06_init' hshuf
  | step _ hc hr hw herr ih => exact C06_step hd hshuf _ ih hc hr hw herr
  | op o _ _ ih => exact ih

theorem C06_exactly_once (hd : DeckOk cfg) {s : State} (h : CardInv cfg s) (c : Card) :
    (allCards s).count c = if c ∈ cfg.deck then 1 else 0 := by
  rw [h.perm.count_eq]
  split
  · rename_i hc; exact List.count_eq_one_of_mem hd.nodup hc
  · rename_i hc; exact List.count_eq_zero_of_not_mem hc

theorem C06_request_distinct (hd : DeckOk cfg) (hshuf : ∀ l, (env.shuffle l).Perm l) {s : State}
    (h : CardInv cfg s) (arg : CardsArg) (v : Verdict (List Card)) (hclean : arg.clean)
    (hv : s.verifyCardsConsumption cfg env arg = .ok v) (hw : v.warned = false) :
    v.val.Nodup ∧ ∀ c ∈ v.val, c ∈ rest s ∧ c ∉ inplay s := by
  have hnd := h.nodup hd
  obtain ⟨h1, h2⟩ := verify_cards_spec hshuf s arg v hnd.of_append_left hclean hv hw
  exact ⟨h1, fun c hc => ⟨h2 c hc, fun hin => (List.nodup_append.1 hnd).2.2 c (h2 c hc) c hin rfl⟩⟩

/-- `DeckOk` is satisfiable: a three-card deck (the other premises of `C06_step` have no example here) -/
example : DeckOk { (default : Config) with deck := [⟨10, 0⟩, ⟨11, 0⟩, ⟨12, 0⟩] } :=
  ⟨by decide, by decide⟩

end PK
