/-
  C07 — Every hand runs to completion through the documented phases.

  Theorems (about every machine configuration reachable from a constructed state by micro-steps
  and public operations with arbitrary arguments, under every automation subset):

  * `C07_exclusive`     at every point — including every intermediate point of the automation
                        cascade — **at most one phase has pending work** (the nine phases and
                        their pending-work flags are in PK/Spec/Phases.lean).  This is the
                        "exactly one phase is active" clause minus "at least one".
  * `C07_phase_order`   the control structure: a `_begin/_update/_end` method of phase X runs
                        only when no *other* phase has pending work (but `_update_showdown` outside a
                        street, after a voluntary show once the hand is over, which returns at once:
                        `framePre`), a `_begin` only when no phase at all has, and the frames waiting on
                        the python call stack below the running one are loop/if continuations only
                        (`PhaseInv`).
  * `C07_auto_ante`     the operation the ante automation loop fires is admitted by its verifier; the
                        same for blind posting, run-out selection, hand killing and chips pulling is
                        `verifyFlagged_none` (PK/Proofs/VerifyFlagged.lean), put to use in `C07_offers`.
  * `C07_refusal_is_stop`  an operation the verifier refuses stops at once, stack empty.

  That some operation of the active phase is *available* is proved in C07Offers.lean for every phase but dealing
  (needs the deck to suffice) and the showdown queue.  Not proved (checked on every implementation trace by the
  C07 monitor instead): availability in those two phases, that nothing is
  available after the end, the bound on the number of operations, and `no_partial_failure`,
  which is false: the recorded finding F12a (a pot left without eligible players).
-/
import PK.Proofs.Phase
import PK.Properties.C08
namespace PK
open M

variable {cfg : Config} {env : Env}

/-- configurations reachable from the constructor by micro-steps and by public operations
    (any arguments) issued at quiescent points -/
inductive Reach (cfg : Config) (env : Env) : M → Prop where
  | init : Reach cfg env { st := setup cfg env, ctl := [.beginAnte] }
  | step {m} : Reach cfg env m → Reach cfg env (step cfg env m)
  | op {m} (o : Ctl) : Reach cfg env m → m.ctl = [] → o.isK = false → o.phase? = none → o ≠ .endHand →
      Reach cfg env { m with ctl := [o], err := none, warned := false }

theorem Reach.st_inv {P : State → Prop} (h0 : P (setup cfg env)) (hs : ∀ m : M, P m.st → P (M.step cfg env m).st)
    {m : M} (h : Reach cfg env m) : P m.st := by
  induction h with
  | init => exact h0
  | step _ ih => exact hs _ ih
  | op _ _ _ _ _ _ ih => exact ih

theorem setup_allClear : AllClear (setup cfg env) := by
  intro Y
  unfold setup
  cases Y <;> simp [Phase.flag, anyB, State.anyHoleDealing, State.anyBoardDealing]

theorem C07_init : PhaseInv cfg ({ st := setup cfg env, ctl := [.beginAnte] } : M) :=
  ⟨setup_allClear.excl, (fun _ _ h => by cases h; exact setup_allClear), (fun _ _ h => by cases h; exact fun _ hg => nomatch hg)⟩

theorem C07_phase_order {m : M} (h : Reach cfg env m) : PhaseInv cfg m := by
  induction h with
  | init => exact C07_init
  | step _ ih => exact phaseInv_step _ ih
  | op o _ hq hk hp he ih =>
    -- an operation has no precondition, and nothing waits below it
    refine ⟨ih.excl, fun f rest hc => ?_, fun f rest hc => by cases hc; exact fun _ hg => nomatch hg⟩
    cases hc
    cases o <;> first | trivial | cases hk | cases hp | exact absurd rfl he

theorem C07_exclusive {m : M} (h : Reach cfg env m) : Exclusive m.st := (C07_phase_order h).excl

theorem C07_exclusive_pair {m : M} (h : Reach cfg env m) (X Y : Phase)
    (hx : X.flag m.st = true) (hy : Y.flag m.st = true) : X = Y := by
  obtain ⟨Z, hz⟩ := C07_exclusive h
  rw [hz X hx, hz Y hy]

theorem C07_auto_ante (s : State) (h : anyB s.antePosting = true) (hlen : s.antePosting.length ≤ cfg.n) :
    ∃ p, s.verifyAntePosting cfg none = .ok p := verifyFlagged_none (k := .ok) h hlen

theorem C07_refusal_is_stop (s : State) (op : Ctl) (e : Err) (hop : op.isOp = true)
    (h : verifyOp cfg env s op = .error e) : (apply cfg env s op).ctl = [] := by
  rw [C08_refused_unchanged cfg env s op e hop h]

end PK
