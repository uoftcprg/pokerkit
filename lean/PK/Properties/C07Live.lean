/-
  C07, never stuck — **while a hand is not over exactly one phase is active**.

  `C07_exclusive` (PK/Properties/C07.lean) is the "at most one" half, at every point of every history.  This file
  is the "at least one" half, for every history in which no exception escapes from inside a cascade:

  * `live_step`          one micro-step keeps `Live`: some phase has work pending, or the hand is over, or a
                         `_begin/_update/_end` method is about to run; a refused public operation (any
                         arguments) leaves the state as it was and so keeps it too;
  * `showStreet_step`, `beginShowOk_step`
                         the showdown has work pending only while a street is being played, and
                         `_begin_showdown` is entered with a street (only `_end_bet_collection` calls it, after
                         looking) — needed because `_update_showdown` returns at once when there is no street
                         (a voluntary show after the hand); uses the frame lemma `sv_frame`
                         (PK/Proofs/Frames.lean);
  * `C07_never_stuck`    at every quiescent point (empty control stack) some phase is pending or the hand is over;
  * `C07_exactly_one`    hence, while `status` is true, exactly one of the nine phases is active;
  * `C07_show_in_street` the showdown flags are only up inside a street.

  The side condition (f) `CleanStep` — the step ends without an exception, or it is the step of a public operation
  and leaves the state as it was (a refused operation; one that fails before it writes anything is let through as
  well) — is needed: the recorded finding F12a (a pot left without eligible players) crashes inside `push_chips` and
  leaves a live hand with no phase pending.  Refused operations are steps of `LiveReach` like any other.
-/
import PK.Properties.C07
import PK.Proofs.Frames
import PK.Properties.C01
namespace PK
open State M

variable {cfg : Config} {env : Env}

def PendingOrOver (s : State) : Prop := (∃ X : Phase, X.flag s = true) ∨ s.status = false

/-- the `_begin/_update/_end` methods of the phases and `_end` (the frame `endHand`) -/
def Ctl.internal (f : Ctl) : Bool := f.phase?.isSome || f == .endHand

/-- the showdown only has work pending while a street is being played -/
def ShowStreet (cfg : Config) (s : State) : Prop := Phase.show.flag s = true → (s.street cfg).isSome = true

/-- `_begin_showdown` is entered with a street -/
def BeginShowOk (cfg : Config) (m : M) : Prop :=
  ∀ rest, m.ctl = .beginShow :: rest → (m.st.street cfg).isSome = true

/-- (f): no escaping exception, except from a public operation that leaves the state as it was (a refused one, or
    one that fails before it writes anything) -/
def CleanStep (cfg : Config) (env : Env) (m : M) : Prop :=
  (step cfg env m).err = none ∨ ∃ f rest, m.ctl = f :: rest ∧ f.isOp = true ∧ (step cfg env m).st = m.st

theorem PendingOrOver.log {s : State} (h : PendingOrOver s) (op) : PendingOrOver (M.log s op) := by
  cases op with
  | none => exact h
  | some o =>
    rcases h with ⟨X, hX⟩ | h
    · exact Or.inl ⟨X, by cases X <;> exact hX⟩
    · exact Or.inr h

theorem herr_of_clean {m : M} (hc : CleanStep cfg env m) {f : Ctl} {rest : List Ctl} (hctl : m.ctl = f :: rest)
    (hf : f.isOp = false) : (step cfg env m).err = none := by
  rcases hc with h | ⟨f', r', he, hop, _⟩
  · exact h
  · rw [hctl] at he; cases he; rw [hf] at hop; cases hop

theorem beginShowOk_step (m : M) (hP : PhaseInv cfg m) (hB : BeginShowOk cfg m) :
    BeginShowOk cfg (step cfg env m) := by
  cases hctl : m.ctl with
  | nil => rw [step_nil hctl]; exact hB
  | cons f rest =>
    intro r hr
    rcases (step_head (hP.tail f rest hctl) hctl hr).2 with hk | ⟨gs, hp, _⟩
    · cases hk
    · cases hp
      revert hr
      rw [step_endCollect_eq hctl]
      (repeat' split) <;> intro hr <;> first | cases hr | skip
      exact Option.isSome_iff_ne_none.2 fun h => ‹¬(street cfg _).isNone = true› (Option.isNone_iff_eq_none.2 h)

theorem sv_showStreet {s s' : State} (h : sv s' = sv s) (hJ : ShowStreet cfg s) : ShowStreet cfg s' := by
  cases s; cases s'
  cases h
  exact hJ

theorem showStreet_step (m : M) (hP : PhaseInv cfg m) (hJ : ShowStreet cfg m.st) (hB : BeginShowOk cfg m)
    (hc : CleanStep cfg env m) : ShowStreet cfg (step cfg env m).st := by
  refine step_writers (sv_frame m) (fun e => sv_showStreet e hJ) fun f rest hctl hw hflag => ?_
  cases f <;> first | (cases hw; done) | skip
  case opShow arg i =>
    obtain ⟨hst, hnone⟩ := opShow_spec (cfg := cfg) (env := env) m arg i rest hctl
    rw [hst]
    cases hs : m.st.street cfg with
    | some st => rfl
    | none =>
      have hn : (m.st.street cfg).isNone = true := by rw [hs]; rfl
      rw [(hnone hn).1 .show] at hflag
      exact hs ▸ hJ hflag
  case opRunout c i =>
    -- refused, or the flag was up already; the street stays
    rw [step_view (·.street cfg) hctl fun _ _ => rfl]
    cases hv : verifyOp cfg env m.st (.opRunout c i) with
    | error e => rw [step_refused hctl rfl hv] at hflag; exact hJ hflag
    | ok _ => exact hJ (verifyOp_flag hv rfl (.inr fun _ _ e => nomatch e))
  case beginShow =>
    rw [step_view (·.street cfg) hctl fun _ _ => rfl]
    exact hB rest hctl
  -- `_begin_dealing`, `_end_bet_collection`, `_begin_chips_pushing` hand over to a method that does not run
  -- while the showdown is pending
  all_goals
    obtain ⟨fs, hp, hfs⟩ := pushes_of_clean hctl (herr_of_clean hc hctl rfl)
    have hP' := phaseInv_step (env := env) m hP
    cases hp <;> first
      | cases hP'.head _ _ hfs .show hflag
      | exact absurd ((hP'.head _ _ hfs .show).symm.trans hflag) nofun

/-- some phase has work pending, or the hand is over, or a `_begin/_update/_end` method (or `_end`) is the running
    frame — `_update_showdown` only with a street: without one it returns at once, leaving nothing pending -/
def Live (cfg : Config) (m : M) : Prop :=
  PendingOrOver m.st ∨ ∃ f rest, m.ctl = f :: rest ∧ f.internal = true ∧
    ∀ op, f = .updShow op → (m.st.street cfg).isSome = true

theorem live_next {m' : M} {g : Ctl} {r : List Ctl} (hctl : m'.ctl = g :: r) (hg : g.internal = true)
    (hn : ∀ op, g ≠ .updShow op) : Live cfg m' :=
  Or.inr ⟨g, r, hctl, hg, fun op h => absurd h (hn op)⟩

theorem live_step (m : M) (hJ : ShowStreet cfg m.st) (hB : BeginShowOk cfg m)
    (hc : CleanStep cfg env m) (hL : Live cfg m) : Live cfg (step cfg env m) := by
  cases hctl : m.ctl with
  | nil => rw [step_nil hctl]; exact hL
  | cons f rest =>
    have hpo : f.internal = false → PendingOrOver m.st := by
      intro hf
      rcases hL with h | ⟨f', r', he, hi, _⟩
      · exact h
      · rw [hctl] at he; cases he; rw [hf] at hi; cases hi
    -- by (f): an edge of the control flow, or a public operation refused or crashed with the state as it was
    have hedge : PendingOrOver (step cfg env m).st ∨ ∃ fs, Pushes cfg f fs ∧ (step cfg env m).ctl = fs ++ rest := by
      rcases hc with herr | ⟨f', _, he, hop, hsame⟩
      · exact .inr (pushes_of_clean hctl herr)
      · rw [hctl] at he; cases he
        exact .inl (by rw [hsame]; exact hpo (by cases f <;> first | rfl | cases hop))
    -- an update that does not end its phase finds the flag still up
    have hup : ∀ X, f.phase? = some X → ∀ m' : M, X.flag m'.st ≠ false → Live cfg m' :=
      fun X _ m' h => .inl (.inl ⟨X, Bool.not_eq_false _ ▸ h⟩)
    cases f
    case kAnteLoop | kBlindLoop | kDealAfterBurn | kHoleLoop | kDealBoard | kRunoutLoop | kShowPart
        | kShowLoop | kKillLoop | kPushLoop | kPullLoop =>
      exact .inl (by rw [show (step cfg env m).st = m.st from step_restore hctl]; exact hpo rfl)
    case endHand =>
      step_at hctl
      exact .inl (.inr rfl)
    case opNoOp =>
      step_at hctl
      exact .inl ((hpo rfl).log (some .noOperation))
    case updAnte op | updCollect op | updBlind op | updDeal op | updBet op st | updKill op | updPush op
        | updPull op =>
      step_at hctl
      split
      · exact live_next rfl rfl (fun _ h => nomatch h)
      · rename_i hne
        (repeat' split) <;> exact hup _ rfl _ fun hfl => hne (by simp [Phase.flag] at hfl; simp [hfl])
    case updShow op =>
      have hcase : PendingOrOver m.st ∨ (m.st.street cfg).isSome = true := by
        rcases hL with h | ⟨f', r', he, _, hu⟩
        · exact Or.inl h
        · rw [hctl] at he; cases he; exact Or.inr (hu op rfl)
      step_at hctl
      rw [street_log]
      split
      · rename_i hnone
        rcases hcase with h | h
        · exact .inl (h.log op)
        · cases hst : m.st.street cfg with
          | none => rw [hst] at h; cases h
          | some _ => rw [hst] at hnone; cases hnone
      · split
        · exact live_next rfl rfl (fun _ h => nomatch h)
        · rename_i hne
          exact hup _ rfl _ fun hfl => hne (by simp [Phase.flag] at hfl; simp [hfl])
    -- the frames that hand over to `_update_showdown`: with a street
    case beginShow =>
      rcases hedge with h | ⟨fs, hp, hfs⟩
      · exact .inl h
      cases hp
      refine .inr ⟨_, _, hfs, rfl, fun _ _ => ?_⟩
      rw [step_view (·.street cfg) hctl fun _ _ => rfl]
      exact hB rest hctl
    case opRunout c i =>
      rcases hedge with h | ⟨fs, hp, hfs⟩
      · exact .inl h
      · cases hp
        refine .inr ⟨_, _, hfs, rfl, fun _ _ => ?_⟩
        rw [step_view (·.street cfg) hctl fun _ _ => rfl]
        cases hv : verifyOp cfg env m.st (.opRunout c i) with
        | error e => rw [step_refused hctl rfl hv] at hfs; cases hfs
        | ok _ => exact hJ (verifyOp_flag hv rfl (.inr fun _ _ e => nomatch e))
    case opShow arg i =>
      obtain ⟨hst, hnone⟩ := opShow_spec (cfg := cfg) (env := env) m arg i rest hctl
      cases hs : m.st.street cfg with
      | none =>
        have hn : (m.st.street cfg).isNone = true := by rw [hs]; rfl
        rcases hpo rfl with ⟨X, hX⟩ | hover
        · exact .inl (.inl ⟨X, by rw [(hnone hn).1 X]; exact hX⟩)
        · exact .inl (.inr (by rw [(hnone hn).2]; exact hover))
      | some st =>
        rcases hedge with h | ⟨fs, hp, hfs⟩
        · exact .inl h
        · cases hp
          exact .inr ⟨_, _, hfs, rfl, fun _ _ => by rw [hst, hs]; rfl⟩
    -- the other public operations, and the `_begin` and `_end` methods: the next method of the cascade
    all_goals
      rcases hedge with h | ⟨fs, hp, hfs⟩
      · exact .inl h
      · cases hp <;> exact live_next hfs rfl (fun _ h => nomatch h)

/-- histories in which no exception escapes from inside a cascade (f); refused public operations are
    part of the history -/
inductive LiveReach (cfg : Config) (env : Env) : M → Prop where
  | init : LiveReach cfg env { st := setup cfg env, ctl := [.beginAnte] }
  | step {m} : LiveReach cfg env m → CleanStep cfg env m → LiveReach cfg env (step cfg env m)
  | op {m} (o : Ctl) : LiveReach cfg env m → m.ctl = [] → o.isK = false → o.phase? = none → o ≠ .endHand →
      LiveReach cfg env { m with ctl := [o], err := none, warned := false }

theorem LiveReach.reach {m : M} (h : LiveReach cfg env m) : Reach cfg env m := by
  induction h with
  | init => exact .init
  | step _ _ ih => exact .step ih
  | op o _ hq hk hp he ih => exact .op o ih hq hk hp he

theorem LiveReach.invs {m : M} (h : LiveReach cfg env m) :
    ShowStreet cfg m.st ∧ BeginShowOk cfg m ∧ Live cfg m := by
  induction h with
  | init =>
    refine ⟨?_, ?_, live_next rfl rfl (fun _ h => by cases h)⟩
    · intro hf; rw [setup_allClear .show] at hf; cases hf
    · intro r hr; cases hr
  | step hr hc ih =>
    obtain ⟨hJ, hB, hL⟩ := ih
    have hP := C07_phase_order hr.reach
    exact ⟨showStreet_step _ hP hJ hB hc, beginShowOk_step _ hP hB, live_step _ hJ hB hc hL⟩
  | op o hr hq hk hp he ih =>
    obtain ⟨hJ, hB, hL⟩ := ih
    refine ⟨hJ, ?_, ?_⟩
    · intro r hr'
      cases hr'
      cases hp
    · rcases hL with h | ⟨f, r, hc, _⟩
      · exact Or.inl h
      · rw [hq] at hc; cases hc

theorem C07_show_in_street {m : M} (h : LiveReach cfg env m) (hf : Phase.show.flag m.st = true) :
    (m.st.street cfg).isSome = true := h.invs.1 hf

theorem C07_never_stuck {m : M} (h : LiveReach cfg env m) (hq : m.ctl = []) :
    (∃ X : Phase, X.flag m.st = true) ∨ m.st.status = false := by
  rcases h.invs.2.2 with h | ⟨f, r, hc, _⟩
  · exact h
  · rw [hq] at hc; cases hc

theorem C07_exactly_one {m : M} (h : LiveReach cfg env m) (hq : m.ctl = []) (hs : m.st.status = true) :
    ∃ X : Phase, X.flag m.st = true ∧ ∀ Y : Phase, Y.flag m.st = true → Y = X := by
  rcases C07_never_stuck h hq with ⟨X, hX⟩ | hover
  · exact ⟨X, hX, fun Y hY => C07_exclusive_pair h.reach Y X hY hX⟩
  · rw [hs] at hover; cases hover

/-! the premises are met: a heads-up hand without automation runs its cascade to the blinds -/

def stepN (cfg : Config) (env : Env) : Nat → M → M
  | 0, m => m
  | k + 1, m => stepN cfg env k (step cfg env m)

theorem LiveReach.steps : ∀ (k : Nat) {m : M}, LiveReach cfg env m →
    (∀ j, j < k → (M.step cfg env (stepN cfg env j m)).err = none) → LiveReach cfg env (stepN cfg env k m)
  | 0, _, h, _ => h
  | k + 1, m, h, hc => by
    have h1 : LiveReach cfg env (M.step cfg env m) := .step h (Or.inl (hc 0 (Nat.succ_pos k)))
    exact LiveReach.steps k h1 (fun j hj => hc (j + 1) (Nat.succ_lt_succ hj))

def liveEnv : Env := ⟨fun _ _ _ => .ok 0, id, fun _ _ => .ok none⟩

example : LiveReach exampleCfg liveEnv (stepN exampleCfg liveEnv 9 { st := setup exampleCfg liveEnv, ctl := [.beginAnte] }) ∧
    (stepN exampleCfg liveEnv 9 { st := setup exampleCfg liveEnv, ctl := [.beginAnte] }).ctl = [] ∧
    Phase.blind.flag (stepN exampleCfg liveEnv 9 { st := setup exampleCfg liveEnv, ctl := [.beginAnte] }).st = true :=
  ⟨LiveReach.steps 9 .init (by decide +kernel), by decide +kernel, by decide +kernel⟩

end PK
