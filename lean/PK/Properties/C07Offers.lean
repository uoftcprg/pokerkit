/-
  C07, the active phase offers an operation — `C07_offers` with `C07_flags_len`: at every reachable point, whenever
  one of the phases ante posting, bet collection, blind posting, betting, run-out selection, hand killing, chips
  pushing or chips pulling has work pending, the operation of that phase with default arguments is admitted by its
  verifier (`verifyOp … = .ok ()`, i.e. the `can_*` query answers yes: `C08_can_true_iff`).  Needs that the five
  per-player flag tables have one entry per player, which is an invariant (`C07_flags_len`, by the frame lemma
  `flv_frame` and the thirteen writers).  `C07_offers` names the operation (`Phase.offer`); `C07_offers_reachable`
  says only "some public operation is admitted", which `no_operate` always is.  Not covered: dealing (needs the deck
  to suffice) and the showdown queue (the default show may be refused: unknown cards, an evaluator error) — the
  monitor checks those on every trace.
-/
import PK.Properties.C07Live
namespace PK
open State M

variable {cfg : Config} {env : Env}

theorem flagged_offers {n : Nat} {l : List Bool} {k : Nat → Except Err Nat} (h : anyB l = true) (hlen : l.length = n)
    (hk : ∀ q, k q = .ok q) : (verifyFlagged n l none k).map (fun _ => ()) = .ok () := by
  obtain ⟨q, hq⟩ := verifyFlagged_none (k := k) h (Nat.le_of_eq hlen)
  rw [hq, hk]
  rfl

structure FlagsLen (cfg : Config) (s : State) : Prop where
  ante : s.antePosting.length = cfg.n
  blind : s.blindPosting.length = cfg.n
  kill : s.handKilling.length = cfg.n
  pull : s.chipsPulling.length = cfg.n
  sel : s.runoutSelectors.length = cfg.n

/-- the operation a phase with work pending offers, with default arguments (the showdown: choosing a run-out count;
    dealing, which `C07_offers` does not cover: the burn) -/
def Phase.offer (s : State) : Phase → Ctl
  | .ante => .opPostAnte none
  | .collect => .opCollect
  | .blind => .opPostBlind none
  | .deal => .opBurn .none
  | .bet => if s.bringInStatus then .opBringIn else .opCall
  | .show => .opRunout none none
  | .kill => .opKill none
  | .push => .opPush
  | .pull => .opPull none

theorem C07_offers (s : State) (X : Phase) (hX : X.flag s = true) (hl : FlagsLen cfg s)
    (hnd : X ≠ .deal) (hshow : X = .show → anyB s.runoutSelectors = true) :
    verifyOp cfg env s (X.offer s) = .ok () := by
  cases X
  case ante => exact flagged_offers hX hl.ante fun _ => rfl
  case collect =>
    have : s.betCollection = true := hX
    simp [Phase.offer, verifyOp, State.verifyBetCollection, this]
  case blind => exact flagged_offers hX hl.blind fun _ => rfl
  case deal => exact absurd rfl hnd
  case bet =>
    have hne : s.actors.isEmpty = false := by
      have : (!s.actors.isEmpty) = true := hX
      simpa using this
    cases hb : s.bringInStatus with
    | true => simp [Phase.offer, verifyOp, State.verifyBringInPosting, hne, hb]
    | false => simp [Phase.offer, verifyOp, State.verifyCheckingOrCalling, hne, hb]
  case «show» => exact flagged_offers (hshow rfl) hl.sel fun _ => rfl
  case kill => exact flagged_offers hX hl.kill fun _ => rfl
  case push =>
    have : (!s.subPots.isEmpty) = true := hX
    simp [Phase.offer, verifyOp, State.verifyChipsPushing] at this ⊢
    simpa using this
  case pull => exact flagged_offers hX hl.pull fun _ => rfl

theorem Phase.offer_isOp (s : State) (X : Phase) : (X.offer s).isOp = true := by
  cases X <;> first | rfl | (show Ctl.isOp (ite ..) = true; split <;> rfl)

theorem FlagsLen.of_flv {s s' : State} (h : FlagsLen cfg s) (e : flv s' = flv s) : FlagsLen cfg s' := by
  cases s; cases s'
  cases e
  exact ⟨h.ante, h.blind, h.kill, h.pull, h.sel⟩

theorem flagsLen_setup : FlagsLen cfg (setup cfg env) := by
  refine ⟨?_, ?_, ?_, ?_, ?_⟩ <;> simp [setup]

/-- each of the thirteen writers of a flag table sets one entry, maps over the table or fills it player by player -/
theorem flagsLen_step (m : M) (h : FlagsLen cfg m.st) : FlagsLen cfg (step cfg env m).st := by
  refine step_writers (flv_frame m) h.of_flv fun f rest hctl hw => ?_
  cases f <;> first | (cases hw; done) | skip
  case opKill i =>
    exact step_muck hctl (.inr ⟨i, rfl⟩) (fun _ _ k hk => ⟨h.ante, h.blind, hk.trans h.kill, h.pull, h.sel⟩)
      fun hs hm => hs.of_flv (by rw [muckHoleCards_ok hm]; rfl)
  case opShow arg i =>
    -- leaving the queue, a show and a muck leave the tables alone; a muck then clears one run-out selector
    have h1 (p) : FlagsLen cfg (m.st.offQueue cfg p) := h.of_flv (by rw [offQueue_eq]; rfl)
    refine step_show hctl h h1 fun _ _ hs => ?_
    rcases showOrMuck_ok hs with ⟨_, e⟩ | ⟨_, s₁, hm, e⟩
    · exact (h1 _).of_flv (by rw [e]; rfl)
    · have h2 : FlagsLen cfg s₁ := (h1 _).of_flv (by rw [muckHoleCards_ok hm]; rfl)
      rw [e]
      exact ⟨h2.ante, h2.blind, h2.kill, h2.pull, by simp [h2.sel]⟩
  case beginKill =>
    step_at hctl
    (repeat' split) <;> first | exact h | skip
    rename_i hfold
    refine ⟨h.ante, h.blind, ?_, h.pull, h.sel⟩
    refine foldlE_inv (fun _ _ => rfl) (fun _ hk => hk.length = cfg.n) (fun i _ l l' hl hs => ?_) h.kill hfold
    simp only [killStep] at hs
    (repeat' split at hs) <;> cases hs <;> first | exact hl | exact (List.length_set ..).trans hl
  case beginAnte | opPostAnte =>
    step_at hctl
    (repeat' split) <;> first | exact h | exact ⟨by simp [playerIndices, h.ante], h.blind, h.kill, h.pull, h.sel⟩
  case beginBlind | opPostBlind =>
    step_at hctl
    (repeat' split) <;> first | exact h | exact ⟨h.ante, by simp [playerIndices, h.blind], h.kill, h.pull, h.sel⟩
  case endKill =>
    step_at hctl
    exact ⟨h.ante, h.blind, by simp [h.kill], h.pull, h.sel⟩
  case beginPull | endPull | opPull =>
    step_at hctl
    (repeat' split) <;> first | exact h | exact ⟨h.ante, h.blind, h.kill, by simp [playerIndices, h.pull], h.sel⟩
  case opRunout =>
    rw [step_opRunout_eq hctl]
    split
    · exact h
    · exact ⟨h.ante, h.blind, h.kill, h.pull, by simp [h.sel]⟩
  case beginShow =>
    rw [step_beginShow_eq hctl]
    (repeat' split) <;> first | exact h | skip
    rw [cont_st, openShowdown_eq]
    refine ⟨h.ante, h.blind, h.kill, h.pull, ?_⟩
    simp only [State.openShowdown]
    (repeat' split) <;> first | exact h.sel | simp [playerIndices]

theorem C07_flags_len {m : M} (h : Reach cfg env m) : FlagsLen cfg m.st :=
  h.st_inv flagsLen_setup flagsLen_step

theorem C07_offers_reachable {m : M} (h : Reach cfg env m) (X : Phase) (hX : X.flag m.st = true)
    (hnd : X ≠ .deal) (hshow : X = .show → anyB m.st.runoutSelectors = true) :
    ∃ op, op.isOp = true ∧ verifyOp cfg env m.st op = .ok () :=
  ⟨_, X.offer_isOp m.st, C07_offers m.st X hX (C07_flags_len h) hnd hshow⟩

end PK
