/-
  C08 — Query, verifier and operation agree; a refused operation changes nothing.

  * `C08_refused_step`, `C08_refused_unchanged`   an operation its verifier refuses leaves the state as it was and
                        raises the verifier's exception: one micro-step, and the whole public call `apply`
  * `C08_can_true_iff`, `C08_can_false_iff`   `can_*` answers `True` exactly when the verifier accepts, `False`
                        exactly when it refuses with `ValueError` or `UserWarning`, never for another exception
  * `C08_can_false_refused`, `C08_refused_not_can`   on `False` the operation is refused with one of the two and
                        changes nothing; a refused operation's query did not say yes
  * `C08_index_*`       the five per-player verifiers (PK/Proofs/VerifyFlagged.lean) honour an explicit player
                        index (`C08_index_runout`: and refuse a non-positive count); `C08_index_runout_op`,
                        `C08_index_ante_op`: so does the operation that is logged
  * `C08_getUpHand_total`   `get_up_hand`, which the query `can_show_or_muck_hole_cards` reaches through
                        `can_win_now`, never raises for a hand type of the game, unknown cards face up or on the
                        board included (F30, d358886: it catches the lookup's `KeyError` as `get_hand` does)
-/
import PK.Proofs.Control
import PK.Proofs.VerifyFlagged
namespace PK
open M

theorem C08_refused_step (cfg : Config) (env : Env) (s : State) (op : Ctl) (e : Err)
    (hop : op.isOp = true) (h : verifyOp cfg env s op = .error e) :
    step cfg env { st := s, ctl := [op] } = { st := s, ctl := [], err := some e } :=
  step_refused (m := { st := s, ctl := [op] }) rfl hop h

theorem run_nil (cfg : Config) (env : Env) (k : Nat) (m : M) (h : m.ctl = []) :
    run cfg env k m = m := by
  cases k with
  | zero => rfl
  | succ k => simp [run, h]

theorem C08_refused_unchanged (cfg : Config) (env : Env) (s : State) (op : Ctl) (e : Err)
    (hop : op.isOp = true) (h : verifyOp cfg env s op = .error e) :
    apply cfg env s op = { st := s, ctl := [], err := some e } := by
  unfold apply defaultFuel
  rw [show (100000 : Nat) = 99999 + 1 from rfl, run]
  simp only [C08_refused_step cfg env s op e hop h]
  exact run_nil _ _ _ _ rfl

theorem C08_can_true_iff (cfg : Config) (env : Env) (s : State) (op : Ctl) :
    canOp cfg env s op = .ok true ↔ verifyOp cfg env s op = .ok () := by
  unfold canOp canOf
  cases h : verifyOp cfg env s op with
  | ok u => cases u; simp
  | error e => cases e <;> simp

theorem C08_can_false_iff (cfg : Config) (env : Env) (s : State) (op : Ctl) :
    canOp cfg env s op = .ok false ↔
      (verifyOp cfg env s op = .error .valueError ∨ verifyOp cfg env s op = .error .userWarning) := by
  unfold canOp canOf
  cases h : verifyOp cfg env s op with
  | ok u => simp
  | error e => cases e <;> simp

theorem C08_can_false_refused (cfg : Config) (env : Env) (s : State) (op : Ctl)
    (hop : op.isOp = true) (h : canOp cfg env s op = .ok false) :
    (apply cfg env s op).st = s ∧
    ((apply cfg env s op).err = some .valueError ∨ (apply cfg env s op).err = some .userWarning) := by
  rcases (C08_can_false_iff cfg env s op).1 h with h' | h'
  · rw [C08_refused_unchanged cfg env s op _ hop h']; simp
  · rw [C08_refused_unchanged cfg env s op _ hop h']; simp

theorem C08_refused_not_can (cfg : Config) (env : Env) (s : State) (op : Ctl) (e : Err)
    (h : verifyOp cfg env s op = .error e) : canOp cfg env s op ≠ .ok true := by
  intro hc
  rw [C08_can_true_iff] at hc
  rw [hc] at h; cases h

theorem C08_index_ante (cfg : Config) (s : State) (i p : Nat)
    (h : s.verifyAntePosting cfg (some i) = .ok p) : p = i :=
  (Except.ok.inj (verifyFlagged_some h)).symm

theorem C08_index_blind (cfg : Config) (s : State) (i p : Nat)
    (h : s.verifyBlindPosting cfg (some i) = .ok p) : p = i :=
  (Except.ok.inj (verifyFlagged_some h)).symm

theorem C08_index_kill (cfg : Config) (s : State) (i p : Nat)
    (h : s.verifyHandKilling cfg (some i) = .ok p) : p = i :=
  (Except.ok.inj (verifyFlagged_some h)).symm

theorem C08_index_pull (cfg : Config) (s : State) (i p : Nat)
    (h : s.verifyChipsPulling cfg (some i) = .ok p) : p = i :=
  (Except.ok.inj (verifyFlagged_some h)).symm

theorem C08_index_runout (cfg : Config) (s : State) (c : Option Int) (i p : Nat)
    (h : s.verifyRunoutCountSelection cfg c (some i) = .ok p) :
    p = i ∧ (∀ k, c = some k → 1 ≤ k) := by
  have hk := verifyFlagged_some (verifyRunout_eq cfg s c (some i) ▸ h)
  refine ⟨(Except.ok.inj (of_guard hk)).symm, fun k hck => ?_⟩
  subst hck
  simpa using not_of_guard hk

/-- `select_runout_count` hands count and player index to the verifier in this order (`runoutPlumb`; F3, 90ed93c) -/
theorem C08_index_runout_op (cfg : Config) (env : Env) (s : State) (c : Option Int) (i : Nat)
    (h : verifyOp cfg env s (.opRunout c (some i)) = .ok ()) :
    ∃ s', step cfg env { st := s, ctl := [.opRunout c (some i)] } =
      { st := s', ctl := [.updShow (some (.runoutCountSelection i c))] } := by
  simp only [verifyOp, runoutPlumb, Except.map] at h
  split at h <;> try (cases h)
  rename_i p hp
  obtain rfl := (C08_index_runout cfg s c i p hp).1
  simp only [step, runoutPlumb, hp, M.cont]
  exact ⟨_, rfl⟩

theorem C08_index_ante_op (cfg : Config) (env : Env) (s : State) (i : Nat)
    (h : (step cfg env { st := s, ctl := [.opPostAnte (some i)] }).err = none) :
    ∃ s' a, step cfg env { st := s, ctl := [.opPostAnte (some i)] } =
      { st := s', ctl := [.updAnte (some (.antePosting i a))] } := by
  cases hv : s.verifyAntePosting cfg (some i) with
  | error e => simp [step, hv, M.raise] at h
  | ok p =>
    obtain rfl := C08_index_ante cfg s i p hv
    simp only [step, hv] at h ⊢
    split
    · rename_i hc; simp [hc, M.raise] at h
    · split
      · rename_i hc1 hc2; simp [hc1, hc2, M.raise] at h
      · exact ⟨_, _, rfl⟩

/-- non-vacuity: a concrete state in which a refusal actually happens -/
example : verifyOp (default : Config) ⟨fun _ _ _ => .ok 0, id, fun _ _ => .ok none⟩ ({} : State) .opFold
    = .error .valueError := by rfl

theorem C08_getUpHand_total (cfg : Config) (env : Env) (s : State) (i b k : Nat) (hk : k < cfg.handTypes.length) :
    ∃ v, s.getUpHand cfg env i b k = .ok v := by
  unfold State.getUpHand
  split
  · exact ⟨none, rfl⟩
  · rw [List.getElem?_eq_getElem hk]
    simp only []
    split
    · exact ⟨_, rfl⟩
    · exact ⟨none, rfl⟩
    · exact ⟨none, rfl⟩
