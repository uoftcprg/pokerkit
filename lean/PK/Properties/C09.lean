/-
  C09 — Automation is only a convenience: it changes who performs a step, not the hand.

  Theorems (every state, every configuration, every automation subset `A`):

  * `step_autos`  the only frames that read `automations` are the `_update_*` methods and the three
        continuations they start; in particular (`C09_ops_ignore_automation`) what a public operation does
        — verification, state change, the record it logs — does not depend on the automation subset.
  * `C09_loop_*`  the automation loops (ante and blind posting, hole dealing, run-out selection, showdown, hand
        killing, chips pushing, chips pulling): a loop that fires performs exactly the public operation with
        default arguments (the frame a user call with no arguments would run), changes nothing itself, and
        re-tests its condition afterwards; when its condition is false it does nothing.  Board dealing
        (`C09_loop_board`) is an `if`, not a loop: nothing is re-tested.  Card burning and bet collection are
        `if`s inside `_update_dealing` / `_update_bet_collection` and have no theorem here; `C09_twin` covers them.
  * `C09_update_ante/deal/show/push`  an `_update_*` step leaves the same state whatever the automation subset: it
        only appends the record it carries (`upd_step`, PK/Proofs/Control.lean); `automations` decides only whether
        it starts the loop.
  Together: an automated run executes the same operation frames as a run in which a driver
  issues the default operation whenever the loop would have.  The remaining step — that the
  order in which nested loops resume equals the order in which the twin's driver looks for
  work (one phase at a time, C07_exclusive) — is the global simulation `C09_twin` (C09Twin.lean).
  It is also checked on every trace: each automated run is replayed on an
  un-automated twin with a default driver and the two operation logs and stacks are compared
  (monitor C09), on the implementation and — the twin being just another case — on the model.
-/
import PK.Proofs.Control
namespace PK
open State M

variable {cfg : Config} {env : Env}

theorem canWinNow_autos (A : List Automation) (s : State) (p : Nat) :
    s.canWinNow { cfg with autos := A } env p = s.canWinNow cfg env p := by
  have hT : ∀ (b : Nat) (ks : List Nat),
      canWinNow.goTypes { cfg with autos := A } env s p b ks = canWinNow.goTypes cfg env s p b ks := by
    intro b ks
    induction ks with
    | nil => rfl
    | cons k ks ih =>
      unfold canWinNow.goTypes
      rw [ih] <;> rfl
  have hB : ∀ (bs : List Nat),
      canWinNow.goBoards { cfg with autos := A } env s p bs = canWinNow.goBoards cfg env s p bs := by
    intro bs
    induction bs with
    | nil => rfl
    | cons b bs ih =>
      unfold canWinNow.goBoards
      rw [ih, hT] <;> rfl
  unfold State.canWinNow
  rw [hB] <;> rfl

theorem verifyShow_autos (A : List Automation) (s : State) (a : ShowArg) (i : Option Nat) :
    s.verifyShow { cfg with autos := A } env a i = s.verifyShow cfg env a i := by
  unfold State.verifyShow State.showExplicit
  simp only [canWinNow_autos]
  rfl

/-- the `_update_*` methods and the three continuations that read `automations` -/
def Ctl.readsAuto : Ctl → Bool
  | .updAnte _ | .updCollect _ | .updBlind _ | .updDeal _ | .updBet _ _ | .updShow _ | .updKill _
  | .updPush _ | .updPull _ | .kDealAfterBurn | .kDealBoard | .kShowPart => true
  | _ => false

/-- `canWinNow` takes the configuration along (`show_or_muck_hole_cards`, `_begin_hand_killing`) without looking at
    `automations`: the two arms that are not `rfl` -/
theorem step_autos (A : List Automation) (s : State) (f : Ctl) (rest : List Ctl) (e : Option Err) (w : Bool)
    (hf : f.readsAuto = false) :
    step { cfg with autos := A } env { st := s, ctl := f :: rest, err := e, warned := w } =
    step cfg env { st := s, ctl := f :: rest, err := e, warned := w } := by
  cases f
  case opShow a i =>
    rw [step_opShow_eq rfl, step_opShow_eq rfl, verifyShow_autos]
    rfl
  case beginKill =>
    have hk : killStep { cfg with autos := A } env s = killStep cfg env s := by
      funext acc i
      unfold killStep
      simp only [canWinNow_autos]
    simp only [M.step, hk]
    rfl
  all_goals first | rfl | cases hf

theorem readsAuto_of_isOp {f : Ctl} (h : f.isOp = true) : f.readsAuto = false := by
  cases f <;> first | rfl | cases h

theorem C09_ops_ignore_automation (A : List Automation) (s : State) (op : Ctl) (rest : List Ctl)
    (hop : op.isOp = true) (w : Bool) (e : Option Err) :
    step { cfg with autos := A } env { st := s, ctl := op :: rest, err := e, warned := w } =
    step cfg env { st := s, ctl := op :: rest, err := e, warned := w } :=
  step_autos A s op rest e w (readsAuto_of_isOp hop)

theorem C09_queries_ignore_automation (A : List Automation) (s : State) (op : Ctl) (hop : op.isOp = true) :
    verifyOp { cfg with autos := A } env s op = verifyOp cfg env s op := by
  cases op
  case opShow a i =>
    show Except.map (fun _ => ()) (s.verifyShow { cfg with autos := A } env a i) = _
    rw [verifyShow_autos]; rfl
  all_goals first | rfl | cases hop

theorem C09_loop_ante (m : M) (rest : List Ctl) (h : m.ctl = .kAnteLoop :: rest) :
    step cfg env m = if anyB m.st.antePosting then { m with ctl := .opPostAnte none :: .kAnteLoop :: rest }
                     else { m with ctl := rest } := by
  step_at h; split <;> rfl

theorem C09_loop_blind (m : M) (rest : List Ctl) (h : m.ctl = .kBlindLoop :: rest) :
    step cfg env m = if anyB m.st.blindPosting then { m with ctl := .opPostBlind none :: .kBlindLoop :: rest }
                     else { m with ctl := rest } := by
  step_at h; split <;> rfl

theorem canOf_map {α β : Type} (r : Except Err α) (g : α → β) : canOf (r.map g) = canOf r := by
  cases r with
  | ok _ => rfl
  | error e => cases e <;> rfl

theorem C09_loop_hole (m : M) (rest : List Ctl) (h : m.ctl = .kHoleLoop :: rest)
    (b : Bool) (hc : canOp cfg env m.st (.opDealHole .none none) = .ok b) :
    step cfg env m = if b then { m with ctl := .opDealHole .none none :: .kHoleLoop :: rest }
                     else { m with ctl := rest } := by
  rw [canOp, verifyOp, canOf_map] at hc
  step_at h
  rw [hc]; cases b <;> rfl

theorem C09_loop_board (m : M) (rest : List Ctl) (h : m.ctl = .kDealBoard :: rest)
    (b : Bool) (hc : canOp cfg env m.st (.opDealBoard .none) = .ok b) :
    step cfg env m = if cfg.auto .boardDealing && b then { m with ctl := .opDealBoard .none :: rest }
                     else { m with ctl := rest } := by
  rw [canOp, verifyOp, canOf_map] at hc
  step_at h
  rw [hc]
  cases cfg.auto .boardDealing <;> cases b <;> rfl

theorem C09_loop_runout (m : M) (rest : List Ctl) (h : m.ctl = .kRunoutLoop :: rest) :
    step cfg env m = if anyB m.st.runoutSelectors then { m with ctl := .opRunout none none :: .kRunoutLoop :: rest }
                     else { m with ctl := rest } := by
  step_at h; split <;> rfl

theorem C09_loop_show (m : M) (rest : List Ctl) (h : m.ctl = .kShowLoop :: rest) :
    step cfg env m = if !m.st.showdown.isEmpty then { m with ctl := .opShow .none none :: .kShowLoop :: rest }
                     else { m with ctl := rest } := by
  step_at h; split <;> rfl

theorem C09_loop_kill (m : M) (rest : List Ctl) (h : m.ctl = .kKillLoop :: rest) :
    step cfg env m = if anyB m.st.handKilling then { m with ctl := .opKill none :: .kKillLoop :: rest }
                     else { m with ctl := rest } := by
  step_at h; split <;> rfl

theorem C09_loop_push (m : M) (rest : List Ctl) (h : m.ctl = .kPushLoop :: rest) :
    step cfg env m = if !m.st.subPots.isEmpty then { m with ctl := .opPush :: .kPushLoop :: rest }
                     else { m with ctl := rest } := by
  step_at h; split <;> rfl

theorem C09_loop_pull (m : M) (rest : List Ctl) (h : m.ctl = .kPullLoop :: rest) :
    step cfg env m = if anyB m.st.chipsPulling then { m with ctl := .opPull none :: .kPullLoop :: rest }
                     else { m with ctl := rest } := by
  step_at h; split <;> rfl

theorem upd_autos (A : List Automation) {m : M} {f : Ctl} {rest : List Ctl} (h : m.ctl = f :: rest)
    (hu : f.isUpd = true) :
    (step { cfg with autos := A } env m).st = (step cfg env m).st ∧
    (step cfg env m).st = M.log m.st f.record? :=
  ⟨(upd_step h hu).1.trans (upd_step h hu).1.symm, (upd_step h hu).1⟩

theorem C09_update_ante (A : List Automation) (m : M) (op) (rest : List Ctl) (h : m.ctl = .updAnte op :: rest) :
    (step { cfg with autos := A } env m).st = (step cfg env m).st ∧
    (step cfg env m).st = M.log m.st op :=
  upd_autos A h rfl

theorem C09_update_deal (A : List Automation) (m : M) (op) (rest : List Ctl) (h : m.ctl = .updDeal op :: rest) :
    (step { cfg with autos := A } env m).st = (step cfg env m).st ∧
    (step cfg env m).st = M.log m.st op :=
  upd_autos A h rfl

theorem C09_update_show (A : List Automation) (m : M) (op) (rest : List Ctl) (h : m.ctl = .updShow op :: rest) :
    (step { cfg with autos := A } env m).st = (step cfg env m).st ∧
    (step cfg env m).st = M.log m.st op :=
  upd_autos A h rfl

theorem C09_update_push (A : List Automation) (m : M) (op) (rest : List Ctl) (h : m.ctl = .updPush op :: rest) :
    (step { cfg with autos := A } env m).st = (step cfg env m).st ∧
    (step cfg env m).st = M.log m.st op :=
  upd_autos A h rfl

end PK
