/-
  C09, the global simulation — **automation changes who performs a step, not the hand**.

  `C09_twin`: every machine configuration reachable with the automation subset `A` (micro-steps, and public
  operations with any arguments at quiescent points) has a *twin* reachable with no automation at all, in the
  same state — cards, chips, every flag and the whole operation log — and with the same pending work apart from
  loop continuations.  The twin's driver performs the default operation wherever a loop of the automated
  machine does; otherwise the two run the same frames.  `C09_twin_quiescent`: between operations the twin is
  quiescent too.

  How: a stuttering simulation over the control stack, proved once (`twin_sim`) for histories whose micro-steps
  satisfy a guard (`GReach`, `Mirrored`): `C09_twin` is the case of no guard, `twin_log` (C15Auto.lean) the case
  of the histories the replay theorem speaks of.
  * `step_eq_out`    (PK/Proofs/Control.lean) what a micro-step does is independent of what waits below the running
                     frame and of the error / warning registers; `step_uniform` says so for state and stack;
  * `step_autos`     only the nine `_update_*` methods and three continuations read `automations`;
  * `upd_twin`       an `_update_*` method with and without automation: same state; with automation it may
                     start a loop or (card burning from `_update_dealing`, bet collection from
                     `_update_bet_collection`) hand over to one operation, without it only inert continuations;
  * `step_twin`      hence a method or an operation run on the automated machine and on the twin leaves both in
                     the same state, with the same frames pushed apart from continuations;
  * `kstep_shape`    a loop changes nothing itself: it stops, goes on, or hands over to one public operation
                     with default arguments;
  * `pushes_inert`, `inert_step`, `drain`
                     without automation the only continuations are `kDealAfterBurn`, `kDealBoard`,
                     `kShowPart`; they do nothing and run out;
  * `align`          below the running frame only continuations wait (`C07_phase_order`), so a method or an
                     operation at the top of the automated stack is at the top of the twin's stack as well;
  * `catch_up`       where the automated machine has handed over to an operation, the twin's driver lets the
                     continuations run out and performs it.
-/
import PK.Properties.C09
import PK.Properties.C07
namespace PK
open M

variable {cfg : Config} {env : Env}

def nonK (l : List Ctl) : List Ctl := l.filter (fun f => !f.isK)

/-- the continuations that exist without any automation; there they do nothing -/
def Ctl.inertK : Ctl → Bool
  | .kDealAfterBurn | .kDealBoard | .kShowPart => true
  | _ => false

def InertCtl (l : List Ctl) : Prop := ∀ g ∈ l, g.isK = true → g.inertK = true

theorem step_uniform (s : State) (f : Ctl) (rest rest' : List Ctl) (e e' : Option Err) (w w' : Bool) :
    (step cfg env { st := s, ctl := f :: rest, err := e, warned := w }).st =
      (step cfg env { st := s, ctl := f :: rest', err := e', warned := w' }).st ∧
    (((step cfg env { st := s, ctl := f :: rest, err := e, warned := w }).ctl = [] ∧
      (step cfg env { st := s, ctl := f :: rest', err := e', warned := w' }).ctl = []) ∨
     ∃ fs, (step cfg env { st := s, ctl := f :: rest, err := e, warned := w }).ctl = fs ++ rest ∧
           (step cfg env { st := s, ctl := f :: rest', err := e', warned := w' }).ctl = fs ++ rest') := by
  obtain ⟨a1, a2, _⟩ := step_eq_out (cfg := cfg) (env := env) (m := ⟨s, f :: rest, e, w⟩) rfl
  obtain ⟨b1, b2, _⟩ := step_eq_out (cfg := cfg) (env := env) (m := ⟨s, f :: rest', e', w'⟩) rfl
  refine ⟨a1.trans b1.symm, ?_⟩
  rw [a2, b2]
  cases (out cfg env s f).err with
  | none => exact Or.inr ⟨_, rfl, rfl⟩
  | some _ => exact Or.inl ⟨rfl, rfl⟩

theorem auto_off (hA : cfg.autos = []) (a : Automation) : cfg.auto a = false := by
  simp [Config.auto, hA]

theorem inert_nil : InertCtl [] := by intro g hg; cases hg
theorem inert_one (g : Ctl) (h : g.inertK = true) : InertCtl [g] := by
  intro g' hg _; simp at hg; subst hg; exact h
theorem inert_nonK (g : Ctl) (h : g.isK = false) : InertCtl [g] := by
  intro g' hg hk; simp at hg; subst hg; rw [h] at hk; cases hk

theorem InertCtl.append {a b : List Ctl} (ha : InertCtl a) (hb : InertCtl b) : InertCtl (a ++ b) := by
  intro g hg
  rcases List.mem_append.1 hg with hg | hg
  · exact ha g hg
  · exact hb g hg

theorem InertCtl.tail {f : Ctl} {r : List Ctl} (h : InertCtl (f :: r)) : InertCtl r :=
  fun g hg => h g (List.mem_cons_of_mem _ hg)

theorem isOp_conds {o : Ctl} (h : o.isOp = true) : o.isK = false ∧ o.phase? = none ∧ o ≠ .endHand := by
  cases o <;> first | (cases h; done) | exact ⟨rfl, rfl, by intro h; cases h⟩

theorem isOp_of_conds {o : Ctl} (hk : o.isK = false) (hp : o.phase? = none) (he : o ≠ .endHand) : o.isOp = true := by
  cases o <;> first | rfl | (cases hk; done) | (cases hp; done) | exact absurd rfl he

theorem pushes_inert (hA : cfg.autos = []) {f : Ctl} {fs : List Ctl} (hp : Pushes cfg f fs)
    (hf : f.isK = true → f.inertK = true) : InertCtl fs := by
  have hauto := auto_off (cfg := cfg) hA
  cases hp <;> first
    | exact inert_nil
    | exact inert_nonK _ rfl
    | exact inert_one _ rfl
    | (rename_i h; rw [hauto] at h; cases h)
    | cases hf rfl

theorem kstep_shape (m : M) (f : Ctl) (rest : List Ctl) (hctl : m.ctl = f :: rest) (hk : f.isK = true) :
    (step cfg env m).st = m.st ∧
    ((step cfg env m).ctl = [] ∨ ∃ fs, (step cfg env m).ctl = fs ++ rest ∧
      (nonK fs = [] ∨ ∃ o, nonK fs = [o] ∧ o.isOp = true)) := by
  have hs := step_restore (cfg := cfg) (env := env) hctl
  constructor
  · cases f <;> first | (cases hk; done) | exact hs
  · rcases step_ctl (cfg := cfg) (env := env) hctl with ⟨h0, _⟩ | ⟨fs, hp, hc, _⟩
    · exact Or.inl h0
    · refine Or.inr ⟨fs, hc, ?_⟩
      cases hp <;> first | (cases hk; done) | exact Or.inl rfl | exact Or.inr ⟨_, rfl, rfl⟩

theorem street_autos (A : List Automation) (s : State) :
    State.street { cfg with autos := A } s = State.street cfg s := rfl

theorem Pushes.of_upd {f : Ctl} {fs : List Ctl} (hp : Pushes cfg f fs) (hu : f.isUpd = true) :
    fs = [f.endOf] ∨ nonK fs = [] ∨ ∃ o, nonK fs = [o] ∧ o.isOp = true ∧ cfg.autos ≠ [] := by
  have hne {a} (h : cfg.auto a = true) : cfg.autos ≠ [] := fun hA => by rw [auto_off hA] at h; cases h
  cases hp <;> first
    | (cases hu; done)
    | exact .inl rfl
    | exact .inr (.inl rfl)
    | exact .inr (.inr ⟨_, rfl, rfl, hne ‹_›⟩)

theorem upd_twin (A : List Automation) (s : State) (f : Ctl) (rest rest' : List Ctl) (e e' : Option Err)
    (w w' : Bool) (hf : f.isUpd = true) :
    (step { cfg with autos := A } env { st := s, ctl := f :: rest, err := e, warned := w }).st =
      (step { cfg with autos := [] } env { st := s, ctl := f :: rest', err := e', warned := w' }).st ∧
    ∃ fa fb, (step { cfg with autos := A } env { st := s, ctl := f :: rest, err := e, warned := w }).ctl = fa ++ rest ∧
      (step { cfg with autos := [] } env { st := s, ctl := f :: rest', err := e', warned := w' }).ctl = fb ++ rest' ∧
      InertCtl fb ∧ (nonK fa = nonK fb ∨ (nonK fb = [] ∧ ∃ o, nonK fa = [o] ∧ o.isOp = true)) := by
  obtain ⟨sa, _, fa, pa, ha, ea⟩ := upd_step (cfg := { cfg with autos := A }) (env := env) (m := ⟨s, f :: rest, e, w⟩) rfl hf
  obtain ⟨sb, _, fb, pb, hb, eb⟩ := upd_step (cfg := { cfg with autos := [] }) (env := env) (m := ⟨s, f :: rest', e', w'⟩) rfl hf
  have hk : f.isK = true → f.inertK = true := fun hk => by cases f <;> first | (cases hf; done) | cases hk
  refine ⟨sa.trans sb.symm, fa, fb, ha, hb, pushes_inert rfl pb hk, ?_⟩
  -- whether the phase is over does not depend on the automations: both call `_end_*` or neither does
  have hab : fa = [f.endOf] ↔ fb = [f.endOf] := ea.trans eb.symm
  rcases pb.of_upd hf with h2 | h2 | ⟨_, _, _, h2⟩
  · rw [h2, hab.2 h2]; exact .inl rfl
  · rcases pa.of_upd hf with h1 | h1 | ⟨o, h1, ho, _⟩
    · rw [h1, hab.1 h1]; exact .inl rfl
    · exact .inl (h1.trans h2.symm)
    · exact .inr ⟨h2, o, h1, ho⟩
  · exact absurd rfl h2

theorem inert_step (hA : cfg.autos = []) (m : M) (f : Ctl) (rest : List Ctl) (hctl : m.ctl = f :: rest)
    (hin : f.inertK = true) :
    (step cfg env m).st = m.st ∧ (step cfg env m).err = m.err ∧
    ((step cfg env m).ctl = rest ∨ (f = .kDealAfterBurn ∧ (step cfg env m).ctl = .kDealBoard :: rest)) := by
  have hauto := auto_off (cfg := cfg) hA
  cases f <;> first | (cases hin; done) | skip
  all_goals
    step_at hctl
    simp only [hauto, Bool.false_eq_true, if_false]
  case kDealAfterBurn =>
    split
    · exact ⟨rfl, rfl, .inr ⟨trivial, rfl⟩⟩
    · exact ⟨rfl, rfl, .inl rfl⟩
  all_goals exact ⟨rfl, rfl, .inl rfl⟩

theorem Reach.err_none {m : M} (h : Reach cfg env m) : m.ctl ≠ [] → m.err = none := by
  induction h with
  | init => intro _; rfl
  | @step m _ ih =>
    intro hne
    rcases step_err_or (cfg := cfg) (env := env) m with h0 | h1
    · exact absurd h0 hne
    · rw [h1]
      apply ih
      intro hnil
      rw [step_nil hnil] at hne; exact hne hnil
  | op o _ _ _ _ _ _ => intro _; rfl

/-- histories all of whose micro-steps satisfy the guard `G`: micro-steps, and public operations (any arguments)
    issued at quiescent points.  `Reach` is the case of no guard, `LogReach` (C15Replay.lean) the case "no
    exception escapes from inside a cascade, mucks are by players who hold cards". -/
inductive GReach (cfg : Config) (env : Env) (G : M → Prop) : M → Prop where
  | init : GReach cfg env G { st := setup cfg env, ctl := [.beginAnte] }
  | step {m} : GReach cfg env G m → G m → GReach cfg env G (step cfg env m)
  | op {m} (o : Ctl) : GReach cfg env G m → m.ctl = [] → o.isOp = true →
      GReach cfg env G { m with ctl := [o], err := none, warned := false }

theorem GReach.reach {G : M → Prop} {m : M} (h : GReach cfg env G m) : Reach cfg env m := by
  induction h with
  | init => exact .init
  | step _ _ ih => exact .step ih
  | op o _ hq ho ih =>
    obtain ⟨a, b, c⟩ := isOp_conds ho
    exact .op o ih hq a b c

theorem Reach.greach {m : M} (h : Reach cfg env m) : GReach cfg env (fun _ => True) m := by
  induction h with
  | init => exact .init
  | step _ ih => exact .step ih trivial
  | op o _ hq hk hp he ih => exact .op o ih hq (isOp_of_conds hk hp he)

/-- the guard `G` admits every step of an inert continuation that raises nothing: the steps by which the twin drains its
    stack -/
def InertGuard (cfg : Config) (env : Env) (G : M → Prop) : Prop :=
  ∀ {m f rest}, m.ctl = f :: rest → f.inertK = true → (step cfg env m).err = none → G m

/-- an inert continuation at the top runs out in one step, or in two: `kDealAfterBurn` may leave `kDealBoard` in
    its place (`inert_step`), which then goes in one -/
theorem drain_one (hA : cfg.autos = []) {G : M → Prop}
    (hG : InertGuard cfg env G)
    {m : M} {f : Ctl} {rest : List Ctl} (hr : GReach cfg env G m) (hc : m.ctl = f :: rest) (hin : f.inertK = true) :
    ∃ m', GReach cfg env G m' ∧ m'.st = m.st ∧ m'.ctl = rest := by
  have one : ∀ {m : M} {f : Ctl}, GReach cfg env G m → m.ctl = f :: rest → f.inertK = true →
      GReach cfg env G (step cfg env m) ∧ (step cfg env m).st = m.st ∧
      ((step cfg env m).ctl = rest ∨ (f = .kDealAfterBurn ∧ (step cfg env m).ctl = .kDealBoard :: rest)) := by
    intro m f hr hc hin
    obtain ⟨hst, herr, hctl⟩ := inert_step (env := env) hA m f rest hc hin
    have hq := hr.reach.err_none (by rw [hc]; exact List.cons_ne_nil _ _)
    exact ⟨.step hr (hG hc hin (herr.trans hq)), hst, hctl⟩
  obtain ⟨r1, s1, c1 | ⟨_, c1⟩⟩ := one hr hc hin
  · exact ⟨_, r1, s1, c1⟩
  · obtain ⟨r2, s2, c2 | ⟨h, _⟩⟩ := one r1 c1 rfl
    · exact ⟨_, r2, s2.trans s1, c2⟩
    · cases h

theorem drain (hA : cfg.autos = []) {G : M → Prop}
    (hG : InertGuard cfg env G) :
    ∀ (l : List Ctl) (m : M), GReach cfg env G m → m.ctl = l → (∀ g ∈ l, g.inertK = true) →
      ∃ m', GReach cfg env G m' ∧ m'.st = m.st ∧ m'.ctl = []
  | [], m, hr, hc, _ => ⟨m, hr, rfl, hc⟩
  | f :: r, m, hr, hc, hall => by
    obtain ⟨m1, r1, s1, c1⟩ := drain_one hA hG hr hc (hall f List.mem_cons_self)
    obtain ⟨m2, r2, s2, c2⟩ := drain hA hG r m1 r1 c1 (fun g hg => hall g (List.mem_cons_of_mem _ hg))
    exact ⟨m2, r2, s2.trans s1, c2⟩

theorem nonK_append (a b : List Ctl) : nonK (a ++ b) = nonK a ++ nonK b := by
  unfold nonK; exact List.filter_append ..

theorem nonK_allK {l : List Ctl} (h : ∀ g ∈ l, g.isK = true) : nonK l = [] := by
  unfold nonK
  apply List.filter_eq_nil_iff.2
  intro g hg; simp [h g hg]

theorem nonK_cons_K {f : Ctl} (l : List Ctl) (h : f.isK = true) : nonK (f :: l) = nonK l := by
  unfold nonK; simp [h]

theorem nonK_cons_nonK {f : Ctl} (l : List Ctl) (h : f.isK = false) : nonK (f :: l) = f :: nonK l := by
  unfold nonK; simp [h]

/-- the manual twin of an automated machine: the same state, the same pending work apart from loop
    continuations, and no automation loop of its own -/
structure Twin (ma mm : M) : Prop where
  st : ma.st = mm.st
  ctl : nonK ma.ctl = nonK mm.ctl
  inert : InertCtl mm.ctl

theorem InertCtl.all {l : List Ctl} (h : InertCtl l) (hq : nonK l = []) : ∀ g ∈ l, g.inertK = true := by
  intro g hg
  cases hk : g.isK with
  | true => exact h g hg hk
  | false =>
    have : g ∈ nonK l := by unfold nonK; simp [hg, hk]
    rw [hq] at this; cases this

theorem align {mm : M} (hP : ∀ f r, mm.ctl = f :: r → ∀ g ∈ r, g.isK = true) {f : Ctl} (h : nonK mm.ctl = [f]) :
    ∃ rest', mm.ctl = f :: rest' ∧ ∀ g ∈ rest', g.isK = true := by
  cases hc : mm.ctl with
  | nil => rw [hc] at h; cases h
  | cons f' r =>
    have hr := hP f' r hc
    rw [hc] at h
    cases hk : f'.isK with
    | true => rw [nonK_cons_K r hk, nonK_allK hr] at h; cases h
    | false =>
      rw [nonK_cons_nonK r hk, nonK_allK hr] at h
      simp only [List.cons.injEq, and_true] at h
      subst h
      exact ⟨r, rfl, hr⟩

theorem readsAuto_of {f : Ctl} (hk : f.isK = false) (hu : f.isUpd = false) : f.readsAuto = false := by
  cases f <;> first | rfl | (cases hk; done) | (cases hu; done)

theorem step_twin (A : List Automation) {ma mm : M} {f : Ctl} {rest rest' : List Ctl} (ha : ma.ctl = f :: rest)
    (hm : mm.ctl = f :: rest') (hst : ma.st = mm.st) (he : ma.err = mm.err) (hk : f.isK = false) :
    (step { cfg with autos := A } env ma).st = (step { cfg with autos := [] } env mm).st ∧
    (step { cfg with autos := A } env ma).err = (step { cfg with autos := [] } env mm).err ∧
    (((step { cfg with autos := A } env ma).ctl = [] ∧ (step { cfg with autos := [] } env mm).ctl = []) ∨
     ∃ fa fb, (step { cfg with autos := A } env ma).ctl = fa ++ rest ∧
      (step { cfg with autos := [] } env mm).ctl = fb ++ rest' ∧ InertCtl fb ∧
      (nonK fa = nonK fb ∨ (nonK fb = [] ∧ ∃ o, nonK fa = [o] ∧ o.isOp = true))) := by
  cases hu : f.isUpd with
  | true =>
    obtain ⟨h1, h2⟩ := upd_twin (cfg := cfg) (env := env) A ma.st f rest rest' ma.err mm.err ma.warned mm.warned hu
    rw [← step_cons ha, hst, ← step_cons hm] at h1 h2
    exact ⟨h1, ((upd_step ha hu).2.1.trans he).trans (upd_step hm hu).2.1.symm, Or.inr h2⟩
  | false =>
    -- the frame does not read `automations`: the two steps differ only in what waits below
    have hra := readsAuto_of hk hu
    have e : out { cfg with autos := A } env ma.st f = out { cfg with autos := [] } env ma.st f :=
      (step_autos (cfg := cfg) A ma.st f [] none false hra).trans
        (step_autos (cfg := cfg) [] ma.st f [] none false hra).symm
    obtain ⟨a1, a2, a3, _⟩ := step_eq_out (cfg := { cfg with autos := A }) (env := env) ha
    obtain ⟨b1, b2, b3, _⟩ := step_eq_out (cfg := { cfg with autos := [] }) (env := env) hm
    rw [a1, a2, a3, b1, b2, b3, ← hst, ← he, e]
    refine ⟨rfl, rfl, ?_⟩
    cases ho : (out { cfg with autos := [] } env ma.st f).err with
    | some _ => exact Or.inl ⟨rfl, rfl⟩
    | none =>
      exact Or.inr ⟨_, _, rfl, rfl, pushes_inert rfl (out_pushes _ _ ho) (fun h => by rw [hk] at h; cases h), Or.inl rfl⟩

theorem catch_up {G : M → Prop}
    (hG : InertGuard { cfg with autos := [] } env G)
    {ma' mm : M} (hr : GReach { cfg with autos := [] } env G mm) (hst : ma'.st = mm.st) (hin : InertCtl mm.ctl)
    (h : nonK ma'.ctl = nonK mm.ctl ∨ (nonK mm.ctl = [] ∧ ∃ o, nonK ma'.ctl = [o] ∧ o.isOp = true)) :
    ∃ mm', GReach { cfg with autos := [] } env G mm' ∧ Twin ma' mm' := by
  rcases h with h | ⟨h0, o, ho, hop⟩
  · exact ⟨mm, hr, hst, h, hin⟩
  · obtain ⟨m1, r1, s1, c1⟩ := drain (cfg := { cfg with autos := [] }) rfl hG _ mm hr rfl (hin.all h0)
    have hk := (isOp_conds hop).1
    exact ⟨{ m1 with ctl := [o], err := none, warned := false }, .op o r1 c1 hop, hst.trans s1.symm,
      ho.trans (nonK_cons_nonK [] hk).symm, inert_nonK o hk⟩

/-- what the simulation asks of the guards `Ga` on the automated histories and `Gm` on the un-automated ones -/
structure Mirrored (cfg : Config) (env : Env) (A : List Automation) (Ga Gm : M → Prop) : Prop where
  inert : InertGuard { cfg with autos := [] } env Gm
  mirror : ∀ {ma mm f rest rest'}, ma.ctl = f :: rest → mm.ctl = f :: rest' → ma.st = mm.st →
    (step { cfg with autos := A } env ma).st = (step { cfg with autos := [] } env mm).st →
    (step { cfg with autos := A } env ma).err = (step { cfg with autos := [] } env mm).err → Ga ma → Gm mm

theorem Mirrored.trivial (A : List Automation) : Mirrored cfg env A (fun _ => True) (fun _ => True) :=
  ⟨fun _ _ _ => True.intro, fun _ _ _ _ _ _ => True.intro⟩

theorem twin_sim {A : List Automation} {Ga Gm : M → Prop} (hG : Mirrored cfg env A Ga Gm)
    {ma : M} (h : GReach { cfg with autos := A } env Ga ma) :
    ∃ mm, GReach { cfg with autos := [] } env Gm mm ∧ Twin ma mm := by
  induction h with
  | init => exact ⟨_, .init, rfl, rfl, inert_nonK _ rfl⟩
  | op o _ hq ho ih =>
    obtain ⟨mm, hmm, ht⟩ := ih
    refine catch_up hG.inert hmm ht.st ht.inert (Or.inr ⟨?_, o, nonK_cons_nonK [] (isOp_conds ho).1, ho⟩)
    rw [← ht.ctl, hq]; rfl
  | @step m hr hg ih =>
    obtain ⟨mm, hmm, ht⟩ := ih
    cases hctl : m.ctl with
    | nil => rw [step_nil hctl]; exact ⟨mm, hmm, ht⟩
    | cons f rest =>
      have hrest : nonK rest = [] := nonK_allK ((C07_phase_order hr.reach).tail f rest hctl)
      cases hk : f.isK with
      | true =>
        -- an automation loop: the twin waits, or performs the operation the loop hands over to
        have hq : nonK mm.ctl = [] := by rw [← ht.ctl, hctl, nonK_cons_K rest hk, hrest]
        obtain ⟨hst, hc⟩ := kstep_shape (cfg := { cfg with autos := A }) (env := env) m f rest hctl hk
        refine catch_up hG.inert hmm (hst.trans ht.st) ht.inert ?_
        rcases hc with hnil | ⟨fs, hfs, hno | hop⟩
        · exact Or.inl (by rw [hnil, hq]; rfl)
        · exact Or.inl (by rw [hfs, nonK_append, hno, hrest, hq]; rfl)
        · exact Or.inr ⟨hq, by rwa [hfs, nonK_append, hrest, List.append_nil]⟩
      | false =>
        -- a method or an operation: it is the running frame of the twin as well, and the twin runs it
        obtain ⟨rest', hmctl, hrest'K⟩ := align (C07_phase_order hmm.reach).tail
          (by rw [← ht.ctl, hctl, nonK_cons_nonK rest hk, hrest])
        have hrest' : nonK rest' = [] := nonK_allK hrest'K
        have he : m.err = mm.err :=
          (hr.reach.err_none (by rw [hctl]; exact List.cons_ne_nil _ _)).trans
            (hmm.reach.err_none (by rw [hmctl]; exact List.cons_ne_nil _ _)).symm
        obtain ⟨hst, herr, hc⟩ := step_twin (cfg := cfg) (env := env) A hctl hmctl ht.st he hk
        have hmm' := GReach.step hmm (hG.mirror hctl hmctl ht.st hst herr hg)
        rcases hc with ⟨ha, hb⟩ | ⟨fa, fb, ha, hb, hin, hc⟩
        · exact ⟨_, hmm', hst, by rw [ha, hb], by rw [hb]; exact inert_nil⟩
        · refine catch_up hG.inert hmm' hst (by rw [hb]; exact hin.append (hmctl ▸ ht.inert).tail) ?_
          rw [ha, hb, nonK_append, nonK_append, hrest, hrest', List.append_nil, List.append_nil]
          exact hc

theorem twin_quiescent {A : List Automation} {Ga Gm : M → Prop} (hG : Mirrored cfg env A Ga Gm)
    {ma : M} (h : GReach { cfg with autos := A } env Ga ma) (hq : ma.ctl = []) :
    ∃ mm, GReach { cfg with autos := [] } env Gm mm ∧ mm.st = ma.st ∧ mm.ctl = [] := by
  obtain ⟨mm, hr, ht⟩ := twin_sim hG h
  obtain ⟨m1, hr1, hst1, hctl1⟩ := drain (cfg := { cfg with autos := [] }) (env := env) rfl hG.inert _ mm hr rfl
    (ht.inert.all (by rw [← ht.ctl, hq]; rfl))
  exact ⟨m1, hr1, hst1.trans ht.st.symm, hctl1⟩

theorem C09_twin (A : List Automation) {ma : M} (h : Reach { cfg with autos := A } env ma) :
    ∃ mm, Reach { cfg with autos := [] } env mm ∧ Twin ma mm := by
  obtain ⟨mm, hmm, ht⟩ := twin_sim (.trivial A) h.greach
  exact ⟨mm, hmm.reach, ht⟩

theorem C09_twin_quiescent (A : List Automation) {ma : M} (h : Reach { cfg with autos := A } env ma)
    (hq : ma.ctl = []) :
    ∃ mm, Reach { cfg with autos := [] } env mm ∧ mm.st = ma.st ∧ mm.ctl = [] := by
  obtain ⟨mm, hr, hst, hctl⟩ := twin_quiescent (.trivial A) h.greach hq
  exact ⟨mm, hr.reach, hst, hctl⟩

/-- in particular the operation log of an automated hand is the log of a hand played without automation -/
theorem C09_same_log (A : List Automation) {ma : M} (h : Reach { cfg with autos := A } env ma) :
    ∃ mm, Reach { cfg with autos := [] } env mm ∧ mm.st.ops = ma.st.ops := by
  obtain ⟨mm, hr, ht⟩ := C09_twin (cfg := cfg) (env := env) A h
  exact ⟨mm, hr, by rw [ht.st]⟩

end PK
