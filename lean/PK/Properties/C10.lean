/-
  C10 — dealing follows the street definitions.

  What is proved here (for every configuration, state and argument):
  * `C10_begin_deal`, `C10_deal_setup`   what `_begin_dealing` sets up: burn as prescribed, the street's hole
                            facings queued for the players in the hand and nothing for the others,
                            the street's board count for every board, the street's draw flag for every
                            player in the hand; and the fall-back: when the queued hole cards exceed what the
                            dealer can still draw on, nothing is queued for the players and every
                            board gets the hole cards of the street in addition.
  * `C10_burn_first_*`      hole and board dealing are refused while the burn is pending, the
                            burn is refused when none is pending (`C10_burn_only_when_prescribed`); all three
                            are refused during a draw (`C10_no_*_during_draw`).
  * `C10_hole_count`, `C10_board_count`    how many cards one call may deal.
  * `C10_dealee_longest`, `C10_dealee_first`   the default dealee: the longest queue, the lowest seat on
                            ties — hence one card per round in position order.
  * `C10_deal_hole_step`    an accepted hole dealing appends exactly these cards with exactly the
                            facings at the head of the player's queue, and touches nobody else.
  * `C10_discards_held`, `C10_draw_step`, `C10_draw_fold`, `C10_draw_count`   a discard names cards the
                            player holds (with multiplicity), removes exactly those, and queues one
                            replacement per discard; `discardOne_spec`: with the facing the discarded card had.
  * `C10_betting_after_dealing`, `C10_no_actor_while_dealing`   at every reachable point
                            betting starts / a betting decision is pending only when nothing is
                            left to deal (corollaries of C07's phase invariant).
  Over whole histories: C10Hold.lean (everybody in the hand holds or is owed the same number of hole cards at
  every reachable point) and C10Board.lean (board cards dealt + still owed).  Not proved: that the cards held
  are *exactly* those the streets so far prescribe, facings included; the C10 monitor (harness/dealing.py)
  decides it on implementation traces.
-/
import PK.Properties.C07
namespace PK
open State M

variable {cfg : Config} {env : Env}

theorem C10_burn_first_hole (s : State) (a : CardsArg) (i : Option Nat) (h : s.cardBurning = true) :
    s.verifyHoleDealing cfg env a i = .error .valueError := by
  unfold State.verifyHoleDealing State.verifyHoleDealing0
  simp [h]

theorem C10_burn_first_board (s : State) (a : CardsArg) (h : s.cardBurning = true) :
    s.verifyBoardDealing cfg env a = .error .valueError := by
  unfold State.verifyBoardDealing State.verifyBoardDealing0
  simp [h]

theorem C10_burn_only_when_prescribed (s : State) (a : CardsArg) (h : s.cardBurning = false) :
    ∃ e, s.verifyCardBurning cfg env a = .error e := by
  unfold State.verifyCardBurning
  split
  · exact ⟨_, rfl⟩
  · simp [h]

theorem C10_no_hole_during_draw (s : State) (a : CardsArg) (i : Option Nat) (h : anyB s.standingPat = true) :
    s.verifyHoleDealing cfg env a i = .error .valueError := by
  unfold State.verifyHoleDealing State.verifyHoleDealing0
  simp [h]

theorem C10_no_board_during_draw (s : State) (a : CardsArg) (h : anyB s.standingPat = true) :
    s.verifyBoardDealing cfg env a = .error .valueError := by
  unfold State.verifyBoardDealing State.verifyBoardDealing0
  simp [h]

theorem C10_no_burn_during_draw (s : State) (a : CardsArg) (h : anyB s.standingPat = true) :
    ∃ e, s.verifyCardBurning cfg env a = .error e := by
  unfold State.verifyCardBurning
  split
  · exact ⟨_, rfl⟩
  · rw [if_pos h]
    split <;> exact ⟨_, rfl⟩

theorem C10_hole_count (s : State) (a : CardsArg) (i : Option Nat) (v : Verdict (List Card × Nat))
    (h : s.verifyHoleDealing cfg env a i = .ok v) :
    v.val.2 < cfg.n ∧ 1 ≤ v.val.1.length ∧ v.val.1.length ≤ (s.holeDealing.getD v.val.2 []).length ∧
    s.cardBurning = false ∧ anyB s.standingPat = false := by
  obtain ⟨h0, _, hn, hlen⟩ := verifyHoleDealing_spec h
  obtain ⟨hb, _, hp⟩ := verifyHoleDealing0_ok h0
  exact ⟨hn, hlen.1, hlen.2, hb, hp⟩

theorem C10_board_count (s : State) (a : CardsArg) (v : Verdict (List Card))
    (h : s.verifyBoardDealing cfg env a = .ok v) :
    ∃ bdc, s.boardDealingCount = some bdc ∧ bdc ∈ s.boardDealing ∧ bdc ≠ 0 ∧
      0 < v.val.length ∧ (v.val.length : Int) ≤ bdc ∧ s.cardBurning = false := by
  obtain ⟨h0, bdc, hbdc, _, hlen⟩ := verifyBoardDealing_spec h
  obtain ⟨hmem, hne⟩ := boardDealingCount_some hbdc
  exact ⟨bdc, hbdc, hmem, hne, hlen.1, hlen.2, (verifyBoardDealing0_ok h0).1⟩

/-- python's `max(range(n), key=lambda i: (q i, -i))`, as a fold that keeps the best seat so far and replaces it by
    a strictly better one: the first seat among those with the largest `q` -/
theorem dealee_fold (q : Nat → Nat) (F : Option Nat → Nat → Option Nat) (hF0 : ∀ i, F none i = some i)
    (hF : ∀ b i, F (some b) i = if q i > q b then some i else some b) (n p : Nat)
    (h : (List.range n).foldl F none = some p) :
    p < n ∧ (∀ i < n, q i ≤ q p) ∧ ∀ i < p, q i < q p := by
  -- the statement, with "`none` only on the empty range", is its own invariant as the range grows
  have key : ∀ n, match (List.range n).foldl F none with
      | none => n = 0
      | some p => p < n ∧ (∀ i < n, q i ≤ q p) ∧ ∀ i < p, q i < q p := by
    intro n
    induction n with
    | zero => rfl
    | succ n ih =>
      rw [List.range_succ, List.foldl_append, List.foldl_cons, List.foldl_nil]
      revert ih
      cases (List.range n).foldl F none with
      | none =>
        rintro rfl
        rw [hF0]
        exact ⟨Nat.zero_lt_one, fun i hi => by rw [Nat.lt_one_iff.1 hi]; exact Nat.le_refl _,
          fun i hi => absurd hi (Nat.not_lt_zero i)⟩
      | some b =>
        rintro ⟨hb, hmax, hfirst⟩
        rw [hF]
        by_cases hgt : q n > q b
        · rw [if_pos hgt]
          refine ⟨Nat.lt_succ_self n, fun i hi => ?_, fun i hi => Nat.lt_of_le_of_lt (hmax i hi) hgt⟩
          rcases Nat.lt_succ_iff_lt_or_eq.1 hi with h | rfl
          · exact Nat.le_of_lt (Nat.lt_of_le_of_lt (hmax i h) hgt)
          · exact Nat.le_refl _
        · rw [if_neg hgt]
          refine ⟨Nat.lt_succ_of_lt hb, fun i hi => ?_, hfirst⟩
          rcases Nat.lt_succ_iff_lt_or_eq.1 hi with h | rfl
          · exact hmax i h
          · exact Nat.le_of_not_lt hgt
  have := key n
  rwa [h] at this

theorem C10_dealee (s : State) (st : Street) (p : Nat) (hst : s.street cfg = some st)
    (hh : st.hole.isEmpty = false) (h : s.holeDealeeIndex cfg = some p) :
    p < cfg.n ∧ (∀ i, i < cfg.n → (s.holeDealing.getD i []).length ≤ (s.holeDealing.getD p []).length) ∧
    ∀ i, i < p → (s.holeDealing.getD i []).length < (s.holeDealing.getD p []).length := by
  unfold State.holeDealeeIndex at h
  split at h
  · cases h
  · rw [hst] at h
    simp only [hh, Bool.not_false, if_true] at h
    exact dealee_fold (fun i => (s.holeDealing.getD i []).length) _ (fun _ => rfl) (fun _ _ => rfl) _ _ h

theorem C10_dealee_longest (s : State) (st : Street) (p : Nat) (hst : s.street cfg = some st)
    (hh : st.hole.isEmpty = false) (h : s.holeDealeeIndex cfg = some p) :
    p < cfg.n ∧ ∀ i, i < cfg.n → (s.holeDealing.getD i []).length ≤ (s.holeDealing.getD p []).length :=
  ⟨(C10_dealee s st p hst hh h).1, (C10_dealee s st p hst hh h).2.1⟩

theorem C10_dealee_first (s : State) (st : Street) (p : Nat) (hst : s.street cfg = some st)
    (hh : st.hole.isEmpty = false) (h : s.holeDealeeIndex cfg = some p) :
    ∀ i, i < p → (s.holeDealing.getD i []).length < (s.holeDealing.getD p []).length :=
  (C10_dealee s st p hst hh h).2.2

/-- on a draw street (no hole cards prescribed) replacements go to the first seat owed any -/
theorem C10_dealee_draw (s : State) (st : Street) (p : Nat) (hst : s.street cfg = some st)
    (hh : st.hole.isEmpty = true) (h : s.holeDealeeIndex cfg = some p) :
    (s.holeDealing.getD p []) ≠ [] ∧ ∀ i, i < p → s.holeDealing.getD i [] = [] := by
  unfold State.holeDealeeIndex at h
  split at h
  · cases h
  · rw [hst] at h
    simp only [hh, Bool.not_true, Bool.false_eq_true, if_false] at h
    unfold playerIndices at h
    rw [List.find?_range_eq_some] at h
    exact ⟨by simpa using h.1, fun i hi => by simpa using h.2.2 i hi⟩

theorem C10_deal_hole_step (m : M) (a : CardsArg) (i : Option Nat) (rest : List Ctl)
    (hctl : m.ctl = .opDealHole a i :: rest) (v : Verdict (List Card × Nat))
    (hv : m.st.verifyHoleDealing cfg env a i = .ok v) :
    let s' := (step cfg env m).st
    let p := v.val.2
    let q := m.st.holeDealing.getD p []
    s'.hole = m.st.hole.set p (m.st.holeOf p ++ v.val.1) ∧
    s'.holeStatuses = m.st.holeStatuses.set p (m.st.holeStatusesOf p ++ q.take v.val.1.length) ∧
    s'.holeDealing = m.st.holeDealing.set p (q.drop v.val.1.length) ∧
    (step cfg env m).ctl = .updDeal (some (.holeDealing p v.val.1 (q.take v.val.1.length))) :: rest := by
  step_at hctl
  rw [hv]
  simp only []
  rw [consumeCards_eq]
  exact ⟨rfl, rfl, rfl, rfl⟩

theorem C10_deal_hole_per_player (m : M) (a : CardsArg) (i : Option Nat) (rest : List Ctl)
    (hctl : m.ctl = .opDealHole a i :: rest) (v : Verdict (List Card × Nat))
    (hv : m.st.verifyHoleDealing cfg env a i = .ok v) (hlen : v.val.2 < m.st.hole.length)
    (hlen' : v.val.2 < m.st.holeStatuses.length) (j : Nat) :
    let s' := (step cfg env m).st
    let q := m.st.holeDealing.getD v.val.2 []
    (j = v.val.2 → s'.holeOf j = m.st.holeOf j ++ v.val.1 ∧
      s'.holeStatusesOf j = m.st.holeStatusesOf j ++ q.take v.val.1.length) ∧
    (j ≠ v.val.2 → s'.holeOf j = m.st.holeOf j ∧ s'.holeStatusesOf j = m.st.holeStatusesOf j ∧
      s'.holeDealing.getD j [] = m.st.holeDealing.getD j []) := by
  obtain ⟨h1, h2, h3, _⟩ := C10_deal_hole_step m a i rest hctl v hv
  intro s' q
  constructor
  · rintro rfl
    simp only [s', State.holeOf, State.holeStatusesOf, h1, h2]
    simp [List.getD_eq_getElem?_getD, hlen, hlen', q]
  · intro hj
    simp only [s', State.holeOf, State.holeStatusesOf, h1, h2, h3]
    simp [List.getD_eq_getElem?_getD, Ne.symm hj]

theorem C10_discards_held (s : State) (cards out : List Card) (h : s.verifyStandingPat cards = .ok out) :
    out = cards ∧ ∃ p, s.standerPatIndex = some p ∧ ∀ c, c ∈ cards → cards.count c ≤ (s.holeOf p).count c :=
  verifyStandingPat_spec h

theorem C10_draw_count (hole cards : List Card) (h : ∀ c, c ∈ cards → cards.count c ≤ hole.count c) :
    (cards.foldl List.erase hole).length + cards.length = hole.length := by
  induction cards generalizing hole with
  | nil => rfl
  | cons c cs ih =>
    obtain ⟨hc, hcs⟩ := count_le_cons h
    have := ih (hole.erase c) hcs
    rw [List.length_erase_of_mem hc] at this
    have : 0 < hole.length := List.length_pos_of_mem hc
    simp only [List.foldl_cons, List.length_cons]
    omega

theorem C10_draw_step (m : M) (cards : List Card) (rest : List Ctl) (hctl : m.ctl = .opDraw cards :: rest)
    (p : Nat) (hp : m.st.standerPatIndex = some p) (si : Int) (hsi : m.st.streetIndex = some si)
    (hv : m.st.verifyStandingPat cards = .ok cards) :
    (step cfg env m).st = cards.foldl (discardOne p si.toNat)
      { m.st with standingPat := m.st.standingPat.set p false } ∧
    (step cfg env m).ctl = .updDeal (some (.standingPatOrDiscarding p cards)) :: rest := by
  rw [step_opDraw_eq hctl, hv, hp, hsi]
  exact ⟨rfl, rfl⟩

theorem discardOne_spec (p si : Nat) (s : State) (c : Card) (hp : p < s.hole.length)
    (hp' : p < s.holeStatuses.length) (hq : p < s.holeDealing.length) :
    (discardOne p si s c).holeOf p = (s.holeOf p).erase c ∧
    (discardOne p si s c).holeStatusesOf p = (s.holeStatusesOf p).eraseIdx ((s.holeOf p).idxOf c) ∧
    (discardOne p si s c).holeDealing.getD p [] =
      s.holeDealing.getD p [] ++ [getB (s.holeStatusesOf p) ((s.holeOf p).idxOf c)] ∧
    (discardOne p si s c).hole.length = s.hole.length ∧
    (discardOne p si s c).holeStatuses.length = s.holeStatuses.length ∧
    (discardOne p si s c).holeDealing.length = s.holeDealing.length := by
  refine ⟨discardOne_holeOf p si s c, ?_, ?_, ?_⟩
  all_goals unfold discardOne
  all_goals simp only [State.holeOf, State.holeStatusesOf, List.length_set]
  · simp [List.getD_eq_getElem?_getD, hp']
  · simp [List.getD_eq_getElem?_getD, hq]
  · trivial

theorem C10_draw_fold (p si : Nat) (cards : List Card) (s : State) (hp : p < s.hole.length)
    (hp' : p < s.holeStatuses.length) (hq : p < s.holeDealing.length) :
    (cards.foldl (discardOne p si) s).holeOf p = cards.foldl List.erase (s.holeOf p) ∧
    ((cards.foldl (discardOne p si) s).holeDealing.getD p []).length =
      (s.holeDealing.getD p []).length + cards.length := by
  induction cards generalizing s with
  | nil => simp
  | cons c cs ih =>
    simp only [List.foldl_cons, List.length_cons]
    obtain ⟨h1, _, h3, h4, h5, h6⟩ := discardOne_spec p si s c hp hp' hq
    obtain ⟨i1, i2⟩ := ih (discardOne p si s c) (by omega) (by omega) (by omega)
    rw [i1, i2, h1, h3]
    simp only [List.length_append, List.length_cons, List.length_nil]
    exact ⟨trivial, by omega⟩

/-- the queues `_begin_dealing` builds before it looks at the deck -/
def queued (cfg : Config) (s : State) (st : Street) : List (List Bool) :=
  (playerIndices cfg).map fun i => if getB s.statuses i then s.holeDealing.getD i [] ++ st.hole
    else s.holeDealing.getD i []

/-- the total length of the `queued` lists, which `_begin_dealing` compares with the dealer's stock -/
def pendingCount (cfg : Config) (s : State) (st : Street) : Nat :=
  ((queued cfg s st).map List.length).foldl (· + ·) 0

/-- what the dealer can still draw on: the deck, then the shuffled burnt, mucked and discarded cards -/
def dealerStock (env : Env) (s : State) : List Card := s.deck ++ env.shuffle s.reservedCards

theorem dealSetup_fit (s : State) (st : Street) :
    dealSetup cfg env s st = { s with
      cardBurning := st.burn
      boardDealing := List.replicate cfg.startingBoardCount.toNat
        (if pendingCount cfg s st ≤ (dealerStock env s).length then st.board else st.board + st.hole.length)
      holeDealing :=
        if pendingCount cfg s st ≤ (dealerStock env s).length then queued cfg s st
        else (queued cfg s st).map fun _ => []
      standingPat := (playerIndices cfg).map fun i => if getB s.statuses i then st.draw else getB s.standingPat i } := by
  unfold dealSetup
  simp only []
  split
  · rename_i h
    have hfit : ¬ pendingCount cfg s st ≤ (dealerStock env s).length := Nat.not_le.2 h
    rw [if_neg hfit, if_neg hfit, List.map_replicate]
    rfl
  · rename_i h
    have hfit : pendingCount cfg s st ≤ (dealerStock env s).length := Nat.le_of_not_lt h
    rw [if_pos hfit, if_pos hfit]
    rfl

/-- `dealSetup` is the body of `_begin_dealing`.  What a player was owed before is nothing where `_begin_dealing`
    goes through (`step_beginDeal_cases`). -/
theorem C10_deal_setup (s : State) (st : Street) :
    let s' := dealSetup cfg env s st
    s'.cardBurning = st.burn ∧
    s'.standingPat = (playerIndices cfg).map (fun i => if getB s.statuses i then st.draw else getB s.standingPat i) ∧
    (pendingCount cfg s st ≤ (dealerStock env s).length →
      s'.holeDealing = queued cfg s st ∧
      s'.boardDealing = List.replicate cfg.startingBoardCount.toNat st.board) ∧
    (¬ pendingCount cfg s st ≤ (dealerStock env s).length →
      s'.holeDealing = (queued cfg s st).map (fun _ => []) ∧
      s'.boardDealing = List.replicate cfg.startingBoardCount.toNat (st.board + st.hole.length)) ∧
    s'.hole = s.hole ∧ s'.holeStatuses = s.holeStatuses ∧ s'.statuses = s.statuses ∧ s'.deck = s.deck := by
  rw [dealSetup_fit]
  exact ⟨rfl, rfl, fun h => ⟨if_pos h, congrArg _ (if_pos h)⟩, fun h => ⟨if_neg h, congrArg _ (if_neg h)⟩,
    rfl, rfl, rfl, rfl⟩

theorem queued_getD (s : State) (st : Street) (i : Nat) (hi : i < cfg.n) :
    (queued cfg s st).getD i [] =
      if getB s.statuses i then s.holeDealing.getD i [] ++ st.hole else s.holeDealing.getD i [] := by
  simp [queued, playerIndices, List.getD_eq_getElem?_getD, hi]

theorem C10_owed (s : State) (st : Street) (i : Nat) (hi : i < cfg.n)
    (hfit : pendingCount cfg s st ≤ (dealerStock env s).length) :
    (dealSetup cfg env s st).holeDealing.getD i [] =
      if getB s.statuses i then s.holeDealing.getD i [] ++ st.hole else s.holeDealing.getD i [] := by
  rw [((C10_deal_setup (cfg := cfg) (env := env) s st).2.2.1 hfit).1]
  exact queued_getD s st i hi

theorem C10_owed_fallback (s : State) (st : Street) (i : Nat)
    (hfit : ¬ pendingCount cfg s st ≤ (dealerStock env s).length) :
    (dealSetup cfg env s st).holeDealing.getD i [] = [] := by
  rw [((C10_deal_setup (cfg := cfg) (env := env) s st).2.2.2.1 hfit).1, List.getD_eq_getElem?_getD, List.getElem?_map]
  cases (queued cfg s st)[i]? <;> rfl

theorem step_beginDeal_cases (m : M) (rest : List Ctl) (hctl : m.ctl = .beginDeal :: rest) :
    ((step cfg env m).st = m.st ∧ ∃ e, (step cfg env m).err = some e) ∨
    (m.st.anyHoleDealing = false ∧ ∃ st, m.st.nextStreet.street cfg = some st ∧
      (step cfg env m).st = dealSetup cfg env m.st.nextStreet st ∧ (step cfg env m).ctl = .updDeal none :: rest) := by
  rw [step_beginDeal_eq hctl]
  split
  · exact Or.inl ⟨rfl, _, rfl⟩
  · rename_i hclear
    split
    · rename_i si st hsi hst
      split
      · exact Or.inl ⟨rfl, _, rfl⟩
      · split
        · exact Or.inl ⟨rfl, _, rfl⟩
        · refine Or.inr ⟨?_, st, hst, rfl, rfl⟩
          simp only [Bool.or_eq_true, not_or, Bool.not_eq_true] at hclear
          exact hclear.1.1.2
    · exact Or.inl ⟨rfl, _, rfl⟩

theorem C10_begin_deal (m : M) (rest : List Ctl) (hctl : m.ctl = .beginDeal :: rest)
    (herr : (step cfg env m).err = none) :
    ∃ s0 st, s0 = { m.st with streetIndex := match m.st.streetIndex with
        | none => some 0
        | some i => some (i + 1) } ∧
      s0.street cfg = some st ∧ (step cfg env m).st = dealSetup cfg env s0 st ∧
      (step cfg env m).ctl = .updDeal none :: rest := by
  rcases step_beginDeal_cases m rest hctl with ⟨_, e, he⟩ | ⟨_, st, h⟩
  · rw [herr] at he; cases he
  · exact ⟨_, st, rfl, h⟩

theorem deal_clear {s : State} (h : Phase.flag .deal s = false) :
    s.cardBurning = false ∧ s.anyHoleDealing = false ∧ s.anyBoardDealing = false ∧
    anyB s.standingPat = false := by
  simp only [Phase.flag, Bool.or_eq_false_iff] at h
  exact ⟨h.1.1.1, h.1.1.2, h.1.2, h.2⟩

theorem C10_betting_after_dealing {m : M} (h : Reach cfg env m) (rest : List Ctl)
    (hc : m.ctl = .beginBet :: rest) :
    m.st.cardBurning = false ∧ m.st.anyHoleDealing = false ∧ m.st.anyBoardDealing = false ∧
    anyB m.st.standingPat = false :=
  deal_clear ((C07_phase_order h).head _ _ hc .deal)

theorem C10_no_actor_while_dealing {m : M} (h : Reach cfg env m) (ha : m.st.actors ≠ []) :
    m.st.cardBurning = false ∧ m.st.anyHoleDealing = false ∧ m.st.anyBoardDealing = false ∧
    anyB m.st.standingPat = false := by
  have hb : Phase.flag .bet m.st = true := by simpa [Phase.flag] using ha
  exact deal_clear (Bool.eq_false_iff.2 fun hf => absurd (C07_exclusive_pair h .deal .bet hf hb) (by decide))

end PK
