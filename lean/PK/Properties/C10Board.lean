/-
  C10, the boards over a whole cascade — **each street puts exactly the prescribed number of community cards on the
  boards**, in aggregate over the boards (`stepN`: uninterrupted micro-steps, so with board dealing automated; a history
  with public operations in between is covered step by step, by `C10_board_conservation`):

  * `board_beginDeal`        `_begin_dealing` puts nothing on the table and owes the `b` starting boards, in total,
                             `b` times the street's community cards (or that plus the hole cards, which become
                             shared board cards when the deck cannot cover a stud street);
  * `board_dealBoard`        `deal_board` moves cards from "owed" to the table: cards on the boards + cards still
                             owed is unchanged (the cards go to consecutive rows, the count of the first board
                             with cards owed is decreased by as many);
  * `C10_board_conservation` no other micro-step touches either (`bdv_frame`, PK/Proofs/Frames.lean), so apart
                             from `_begin_dealing` "on the boards + owed" is invariant along every step that does
                             not end in an escaping exception;
  * `C10_board_run`, `C10_board_street`   hence from a `_begin_dealing` that owed `d` cards to the moment nothing is
                             owed any more (betting starts only then: `C10_betting_after_dealing`) exactly `d` cards
                             have been put on the boards.
  Per board (rather than in aggregate) the counts are `C10_board_count`'s: every `deal_board` serves the first
  board with cards owed and at most what it is owed.
-/
import PK.Properties.C06
import PK.Properties.C10
import PK.Properties.C07Live
namespace PK
open State M

variable {cfg : Config} {env : Env}

/-- community cards on the table -/
def boardTotal (s : State) : Int := (s.board.flatten.length : Int)

/-- board cards still owed this street, all boards together -/
def boardOwed (s : State) : Int := sumI s.boardDealing

theorem bdv_total {s s' : State} (h : bdv s' = bdv s) :
    boardTotal s' + boardOwed s' = boardTotal s + boardOwed s := by
  cases s; cases s'
  cases h
  rfl

theorem board_dealBoard (m : M) (arg : CardsArg) (rest : List Ctl) (hctl : m.ctl = .opDealBoard arg :: rest)
    (herr : (step cfg env m).err = none) :
    boardTotal (step cfg env m).st + boardOwed (step cfg env m).st = boardTotal m.st + boardOwed m.st := by
  revert herr
  rw [step_opDealBoard_eq hctl]
  split
  · exact fun _ => rfl
  · rename_i v _
    split
    · rename_i bdc si st hbdc _ _
      split
      · exact fun herr => nomatch herr
      · rename_i b idx hr
        intro _
        -- `v.val.length` cards more on the table, as many fewer owed to the first board that is owed any
        have hmem := (boardDealingCount_some hbdc).1
        have hlen := (board_fold_perm v.val _ _ b idx hr).length_eq
        rw [takeBoardCards_eq] at hlen ⊢
        unfold boardTotal boardOwed
        simp only [cont_st, List.length_append] at hlen ⊢
        rw [sumI_set _ _ _ (List.idxOf_lt_length_of_mem hmem), getI_idxOf hmem, hlen]
        omega
    · exact fun _ => rfl

/-- which of the two alternatives holds, and the counts per board: `C10_deal_setup` -/
theorem board_beginDeal (m : M) (rest : List Ctl) (hctl : m.ctl = .beginDeal :: rest)
    (herr : (step cfg env m).err = none) :
    (step cfg env m).st.board = m.st.board ∧
    ∃ st, (step cfg env m).st.street cfg = some st ∧
      (boardOwed (step cfg env m).st = cfg.startingBoardCount.toNat * st.board ∨
       boardOwed (step cfg env m).st = cfg.startingBoardCount.toNat * (st.board + st.hole.length)) := by
  obtain ⟨s0, st, hs0, hst, e, _⟩ := C10_begin_deal m rest hctl herr
  rw [e, dealSetup_fit]
  refine ⟨by rw [hs0], st, hst, ?_⟩
  unfold boardOwed
  rw [sumI_replicate]
  split
  · exact Or.inl rfl
  · exact Or.inr rfl

theorem C10_board_conservation (m : M) (hnb : ∀ rest, m.ctl ≠ .beginDeal :: rest)
    (herr : (step cfg env m).err = none) :
    boardTotal (step cfg env m).st + boardOwed (step cfg env m).st = boardTotal m.st + boardOwed m.st := by
  refine step_writers (Q := fun s => boardTotal s + boardOwed s = _) (bdv_frame m) bdv_total fun f rest hctl hw => ?_
  cases f <;> cases hw
  case beginDeal => exact absurd hctl (hnb rest)
  case opDealBoard arg => exact board_dealBoard m arg rest hctl herr

theorem C10_board_run : ∀ (k : Nat) (m : M),
    (∀ j, j < k → (∀ rest, (stepN cfg env j m).ctl ≠ .beginDeal :: rest) ∧
      (M.step cfg env (stepN cfg env j m)).err = none) →
    boardTotal (stepN cfg env k m).st + boardOwed (stepN cfg env k m).st = boardTotal m.st + boardOwed m.st
  | 0, _, _ => rfl
  | k + 1, m, h => by
    have h0 := h 0 (Nat.succ_pos k)
    exact (C10_board_run k (M.step cfg env m) fun j hj => h (j + 1) (Nat.succ_lt_succ hj)).trans
      (C10_board_conservation m h0.1 h0.2)

theorem C10_board_street (k : Nat) (m : M) (d : Int) (hd : boardOwed m.st = d)
    (h : ∀ j, j < k → (∀ rest, (stepN cfg env j m).ctl ≠ .beginDeal :: rest) ∧
      (M.step cfg env (stepN cfg env j m)).err = none)
    (hdone : boardOwed (stepN cfg env k m).st = 0) :
    boardTotal (stepN cfg env k m).st = boardTotal m.st + d := by
  have := C10_board_run (cfg := cfg) (env := env) k m h
  omega

end PK
