/-
  C10, lifted over whole histories (counts) — **at every reachable point all players still in the hand
  hold, or are still owed, the same number of hole cards**; so when a betting round starts (nothing is owed
  then, `C10_betting_after_dealing`) they all hold the same number of cards, and `_begin_dealing` raises
  that number by exactly what the street prescribes (or by nothing, when the cards go to the board instead).

  * `C10_hold_step`      one micro-step keeps `HoldInv` (any frame, any arguments, crashes included; no
                         side condition): the table of hands and the table of owed cards have one row per
                         player, and `|hand i| + |owed i|` is the same number for every player in the hand;
  * `C10_hold_reachable` hence at every reachable point (`Reach`, the closure of C07);
  * `C10_same_count_at_betting`  when `_begin_betting` is about to run, every player in the hand holds
                         the same number of hole cards;
  * `C10_begin_deal_count`  what `_begin_dealing` does to the common number: `+ |street.hole|` when the
                         dealer's stock covers the street, `+ 0` in the fall-back.
  Dealing moves a card from "owed" to "held", a discard moves one back (the replacement is owed), `_begin_dealing`
  owes everybody in the hand the same cards, a show tables as many cards as were held, folding takes the player
  out; nothing else touches the three fields (`hv_frame`).
-/
import PK.Proofs.Frames
import PK.Properties.C10
namespace PK
open State M

variable {cfg : Config} {env : Env}

/-- hole cards held plus hole cards still owed -/
def holding (s : State) (i : Nat) : Nat := (s.holeOf i).length + (s.holeDealing.getD i []).length

/-- `hole` and `holeDealing` have one row per player; `even`: `holding` is the same for everybody in the hand -/
structure HoldInv (cfg : Config) (s : State) : Prop where
  lenH : s.hole.length = cfg.n
  lenD : s.holeDealing.length = cfg.n
  even : ∃ T, ∀ i < cfg.n, getB s.statuses i = true → holding s i = T

theorem hold_init : HoldInv cfg (setup cfg env) := by
  refine ⟨by simp [setup], by simp [setup], 0, fun i hi _ => ?_⟩
  simp [holding, State.holeOf, setup, List.getD, hi]

theorem HoldInv.mono {s s' : State} (h : HoldInv cfg s) (hH : s'.hole.length = s.hole.length)
    (hD : s'.holeDealing.length = s.holeDealing.length)
    (hrow : ∀ i < cfg.n, getB s'.statuses i = true → getB s.statuses i = true ∧ holding s' i = holding s i) :
    HoldInv cfg s' :=
  ⟨hH.trans h.lenH, hD.trans h.lenD,
    h.even.imp fun _ hT i hi hl => (hrow i hi hl).2.trans (hT i hi (hrow i hi hl).1)⟩

theorem HoldInv.of_hv {s s' : State} (h : HoldInv cfg s) (e : hv s' = hv s) : HoldInv cfg s' := by
  cases s; cases s'
  cases e
  exact ⟨h.lenH, h.lenD, h.even⟩

theorem HoldInv.row {s s' : State} (h : HoldInv cfg s) (p : Nat) (H : List Card) (D : List Bool)
    (hh : s'.hole = s.hole.set p H) (hd : s'.holeDealing = s.holeDealing.set p D)
    (hs : s'.statuses = s.statuses) (hsame : H.length + D.length = holding s p) : HoldInv cfg s' := by
  refine h.mono (by rw [hh, List.length_set]) (by rw [hd, List.length_set]) fun i hi hl => ⟨hs ▸ hl, ?_⟩
  unfold holding State.holeOf
  rw [hh, hd]
  by_cases hip : p = i
  · subst hip
    rw [getD_set_self _ _ (h.lenH ▸ hi), getD_set_self _ _ (h.lenD ▸ hi)]
    exact hsame
  · rw [getD_set_ne _ _ _ hip, getD_set_ne _ _ _ hip]

theorem hold_muck {s s' : State} {p : Nat} (h : HoldInv cfg s) (hm : s.muckHoleCards p = .ok s') :
    HoldInv cfg s' := by
  rw [muckHoleCards_ok hm]
  refine h.mono (List.length_set ..) rfl fun i _ hl => ?_
  -- whoever is still in the hand is somebody else
  have hl : (getB s.statuses i && i != p) = true := (getB_set_false ..).symm.trans hl
  simp only [Bool.and_eq_true, bne_iff_ne] at hl
  exact ⟨hl.1, congrArg (·.length + _) (getD_set_ne s.hole [] [] (Ne.symm hl.2))⟩

theorem hold_opDealHole (m : M) (h : HoldInv cfg m.st) (arg : CardsArg) (i : Option Nat) (rest' : List Ctl)
    (hctl : m.ctl = .opDealHole arg i :: rest') : HoldInv cfg (step cfg env m).st := by
  step_at hctl
  cases hv' : m.st.verifyHoleDealing cfg env arg i with
  | error e => exact h
  | ok v =>
    obtain ⟨_, _, hk, _⟩ := C10_hole_count m.st arg i v hv'
    simp only []
    rw [consumeCards_eq]
    refine h.row v.val.2 _ _ rfl rfl rfl ?_
    unfold holding
    rw [List.length_append, List.length_drop]
    exact (Nat.add_assoc ..).trans (congrArg _ (Nat.add_sub_cancel' hk))

theorem hold_discard (p k : Nat) (s : State) (c : Card) (h : HoldInv cfg s) (hc : c ∈ s.holeOf p) :
    HoldInv cfg (discardOne p k s c) := by
  refine h.row p _ _ rfl rfl rfl ?_
  have := List.idxOf_lt_length_of_mem hc
  unfold holding
  rw [List.length_eraseIdx, if_pos this, List.length_append, List.length_singleton]
  omega

theorem hold_opDraw (m : M) (h : HoldInv cfg m.st) (cards : List Card) (rest' : List Ctl)
    (hctl : m.ctl = .opDraw cards :: rest') : HoldInv cfg (step cfg env m).st := by
  rcases step_opDraw_cases (cfg := cfg) (env := env) hctl with e | ⟨p, si, _, hcount, e⟩
  · exact e ▸ h
  · exact e ▸ foldl_discard (hold_discard p _) cards _ (h.of_hv rfl) hcount

theorem no_pending {s : State} (h : s.anyHoleDealing = false) (i : Nat) : s.holeDealing.getD i [] = [] := by
  rw [List.getD_eq_getElem?_getD]
  cases hi : s.holeDealing[i]? with
  | none => rfl
  | some q => simpa using List.any_eq_false.1 h q (List.mem_of_getElem? hi)

theorem holding_dealSetup {s : State} (hnone : s.anyHoleDealing = false) (st : Street) (i : Nat) (hi : i < cfg.n)
    (hl : getB s.statuses i = true) :
    holding (dealSetup cfg env s st) i =
      holding s i + (if pendingCount cfg s st ≤ (dealerStock env s).length then st.hole.length else 0) := by
  have e : (dealSetup cfg env s st).holeOf i = s.holeOf i := by rw [dealSetup_eq]; rfl
  unfold holding
  rw [e, no_pending hnone i]
  split
  · rename_i hfit
    rw [C10_owed s st i hi hfit, if_pos hl, no_pending hnone i]
    rfl
  · rename_i hfit
    rw [C10_owed_fallback s st i hfit]
    rfl

theorem hold_dealSetup {s : State} (h : HoldInv cfg s) (hnone : s.anyHoleDealing = false) (st : Street) :
    HoldInv cfg (dealSetup cfg env s st) := by
  obtain ⟨T, hT⟩ := h.even
  refine ⟨?_, ?_, T + (if pendingCount cfg s st ≤ (dealerStock env s).length then st.hole.length else 0),
    fun i hi hl => ?_⟩
  · rw [dealSetup_eq]
    exact h.lenH
  · rw [dealSetup_fit]
    split <;> simp [queued, playerIndices]
  · rw [dealSetup_eq] at hl
    rw [holding_dealSetup hnone st i hi hl, hT i hi hl]

theorem hold_beginDeal (m : M) (h : HoldInv cfg m.st) (rest' : List Ctl) (hctl : m.ctl = .beginDeal :: rest') :
    HoldInv cfg (step cfg env m).st := by
  rcases step_beginDeal_cases m rest' hctl with ⟨e, _⟩ | ⟨hnone, st, _, e, _⟩
  · rw [e]
    exact h
  · rw [e]
    exact hold_dealSetup (s := m.st.nextStreet) (h.of_hv rfl) hnone st

theorem hold_opShow (m : M) (h : HoldInv cfg m.st) (arg : ShowArg) (i : Option Nat) (rest' : List Ctl)
    (hctl : m.ctl = .opShow arg i :: rest') : HoldInv cfg (step cfg env m).st := by
  have h1 (p : Nat) : HoldInv cfg (m.st.offQueue cfg p) := h.of_hv (by rw [offQueue_eq]; rfl)
  refine step_show hctl h h1 fun {v _} hv' _ hs => ?_
  rcases showOrMuck_ok hs with ⟨hst, e⟩ | ⟨_, s₁, hm, e⟩
  · obtain ⟨_, _, _, _, _, _, hlen, _⟩ := verifyShow_spec hv'
    rw [e]
    refine (h1 _).row v.val.player _ _ rfl (set_getD_self _ _ []).symm rfl ?_
    unfold holding
    rw [hlen hst, offQueue_eq]
    rfl
  · rw [e]
    exact (hold_muck (h1 _) hm).of_hv rfl

theorem C10_hold_step (m : M) (h : HoldInv cfg m.st) : HoldInv cfg (step cfg env m).st := by
  refine step_writers (hv_frame m) h.of_hv fun f rest' hctl hf => ?_
  cases f <;> cases hf
  case beginDeal => exact hold_beginDeal m h rest' hctl
  case opDealHole a i => exact hold_opDealHole m h a i rest' hctl
  case opDraw cs => exact hold_opDraw m h cs rest' hctl
  case opFold | opKill =>
    exact step_muck hctl (by simp) (fun _ _ _ _ => h.of_hv rfl) hold_muck
  case opShow a i => exact hold_opShow m h a i rest' hctl

theorem C10_hold_reachable {m : M} (h : Reach cfg env m) : HoldInv cfg m.st :=
  h.st_inv hold_init C10_hold_step

theorem C10_same_count_at_betting {m : M} (h : Reach cfg env m) (rest' : List Ctl)
    (hc : m.ctl = .beginBet :: rest') :
    ∃ T, ∀ i < cfg.n, getB m.st.statuses i = true → (m.st.holeOf i).length = T := by
  obtain ⟨T, hT⟩ := (C10_hold_reachable h).even
  obtain ⟨_, hnone, _, _⟩ := C10_betting_after_dealing h rest' hc
  refine ⟨T, fun i hi hl => ?_⟩
  have := hT i hi hl
  unfold holding at this
  rwa [no_pending hnone i] at this

theorem C10_begin_deal_count {s : State} (h : HoldInv cfg s) (hnone : s.anyHoleDealing = false) (st : Street)
    (T : Nat) (hT : ∀ i < cfg.n, getB s.statuses i = true → holding s i = T) (i : Nat) (hi : i < cfg.n)
    (hl : getB s.statuses i = true) :
    holding (dealSetup cfg env s st) i =
      T + (if pendingCount cfg s st ≤ (dealerStock env s).length then st.hole.length else 0) := by
  rw [holding_dealSetup hnone st i hi hl, hT i hi hl]

end PK
