/-
  C11 — each predefined variant plays the game its name and documentation say.

  * `C11_table`        the twelve game classes as games.py composes them (structure mix-in, family
                        street template, class attributes — `PK.Model.Games`, compared with the live
                        classes attribute by attribute on every run) ARE the documented table
                        `PK.Spec.Variants`: deck, hand type(s), cards per street with facing, board
                        cards per street, draw rounds, opening rule, structure, small/big-bet streets,
                        raise cap — for every small and big bet.
  * `C11_codes`        the eleven hand-history codes name the classes their letters say.
  * behaviour, for every state of a game built from a table row (corollaries of C03/C02):
      `C11_fixed_limit_amount`   a fixed-limit game accepts exactly one bet/raise size;
      `C11_fixed_limit_size`     … which is the street's bet (the small or the big one; which street plays which is in
                                 the table, `C11_table`) on top of the bet to match, unless the stack is shorter;
      `C11_cap_four`             … and refuses the fifth bet/raise of a round;
      `C11_no_cap`               the streets of pot- and no-limit games have no cap (`maxCount = none`), so the
                                 first test of `C03_admissible` never refuses;
      `C11_no_limit_to_stack`    a no-limit game accepts up to the whole stack;
      `C11_pot_limit_to_pot`     a pot-limit game up to the pot-sized raise;
      `C11_split_two_halves`     exactly the two hi-lo games have two hand types, a high one then a low one, every
                                 other game one.  How a board's share of a pot is divided among the hand types
                                 in play is not stated here.
-/
import PK.Spec.Variants
import PK.Proofs.LedgerStep
namespace PK
open Spec

variable {cfg : Config}

theorem C11_table (v : Variant) (sb bb : Int) :
    v.deck = (variantSpec v).deck ∧ v.handTypes = (variantSpec v).handTypes ∧
    v.mixin.structure = (variantSpec v).structure_ ∧
    v.streets sb bb = streetsOf (variantSpec v) sb bb := by
  cases v <;> exact ⟨rfl, rfl, rfl, rfl⟩

theorem street_facts (v : Variant) (sb bb : Int) (st : Street) (h : st ∈ streetsOf (variantSpec v) sb bb) :
    st.maxCount = capOf (variantSpec v).structure_ ∧ (st.minBet = sb ∨ st.minBet = bb) := by
  unfold streetsOf at h
  obtain ⟨⟨r, i⟩, _, rfl⟩ := List.mem_map.mp h
  refine ⟨rfl, ?_⟩
  show (if r.big then bb else sb) = sb ∨ (if r.big then bb else sb) = bb
  cases r.big <;> simp

/-- single-bet games (no-limit, pot-limit, single draw) play one bet size on every street -/
theorem C11_single_bet (v : Variant) (h : v.singleBet = true) (m : Int) :
    ∀ st ∈ v.streets m m, st.minBet = m := by
  -- true of every variant once the two bet sizes are the same: `h` is not needed
  intro st hst
  rw [(C11_table v m m).2.2.2] at hst
  exact (street_facts v m m st hst).2.elim id id

theorem C11_codes :
    (Variant.all.filterMap fun v => v.code.map fun c => (c, v.className)) =
    [("FT", "FixedLimitTexasHoldem"), ("NT", "NoLimitTexasHoldem"), ("NS", "NoLimitShortDeckHoldem"),
     ("PO", "PotLimitOmahaHoldem"), ("FO/8", "FixedLimitOmahaHoldemHighLowSplitEightOrBetter"),
     ("F7S", "FixedLimitSevenCardStud"), ("F7S/8", "FixedLimitSevenCardStudHighLowSplitEightOrBetter"),
     ("FR", "FixedLimitRazz"), ("N2L1D", "NoLimitDeuceToSevenLowballSingleDraw"),
     ("F2L3D", "FixedLimitDeuceToSevenLowballTripleDraw"), ("FB", "FixedLimitBadugi")] := by
  decide +kernel

theorem C11_code_structure (v : Variant) (c : String) (h : v.code = some c) :
    (c.front = 'F' → (variantSpec v).structure_ = .fixedLimit) ∧
    (c.front = 'P' → (variantSpec v).structure_ = .potLimit) ∧
    (c.front = 'N' → (variantSpec v).structure_ = .noLimit) := by
  cases v <;> simp [Variant.code] at h <;> subst h <;> decide

/-- a configuration built from a table row -/
def IsVariant (cfg : Config) (v : Variant) (sb bb : Int) : Prop :=
  cfg.streets = streetsOf (variantSpec v) sb bb ∧ cfg.structure_ = (variantSpec v).structure_ ∧
  cfg.handTypes = (variantSpec v).handTypes ∧ cfg.deck = (variantSpec v).deck

theorem config_isVariant (v : Variant) (autos trim antes blinds bringIn sb bb stacks n) :
    IsVariant (v.config autos trim antes blinds bringIn sb bb stacks n) v sb
      (if v.singleBet then sb else bb) := by
  obtain ⟨h1, h2, h3, h4⟩ := C11_table v sb (if v.singleBet then sb else bb)
  exact ⟨h4, h3, h2, h1⟩

theorem street_of_variant {v : Variant} {sb bb : Int} (hv : IsVariant cfg v sb bb) {s : State} {st : Street}
    (hst : s.street cfg = some st) : st ∈ streetsOf (variantSpec v) sb bb := by
  rw [← hv.1]; exact street_mem hst

theorem C11_fixed_limit_amount {v : Variant} {sb bb : Int} (hv : IsVariant cfg v sb bb)
    (hfl : (variantSpec v).structure_ = .fixedLimit) {s : State} {p : Nat} {mn : Int}
    (hok : s.verifyCbr0 cfg = .ok p) (hm : s.minCbrTo cfg = .ok (some mn))
    (hle : mn ≤ getI s.stacks p + getI s.bets p) : s.maxCbrTo cfg = .ok (some mn) :=
  C03_fixed_limit (hv.2.1.trans hfl) hok hm hle

/-- under every structure.  The size is the largest raise so far if that is larger; a completion of the bring-in is
    to the bet itself; `eff` cuts it down to what the player and his opponents have -/
theorem C11_fixed_limit_size {v : Variant} {sb bb : Int} (hv : IsVariant cfg v sb bb)
    {s : State} {p : Nat} {st : Street} {eff : Int}
    (hok : s.verifyCbr0 cfg = .ok p) (hst : s.street cfg = some st)
    (he : s.effectiveStack cfg p = .ok eff) :
    (st.minBet = sb ∨ st.minBet = bb) ∧
    s.minCbrTo cfg = .ok (some (min (eff + getI s.bets p)
      (max s.cbrAmount st.minBet + (if s.completionStatus then 0 else maxI s.bets)))) :=
  ⟨(street_facts v sb bb st (street_of_variant hv hst)).2, C03_min_amount hok hst he⟩

theorem C11_cap_four {v : Variant} {sb bb : Int} (hv : IsVariant cfg v sb bb)
    (hfl : (variantSpec v).structure_ = .fixedLimit) {s : State} {p : Nat} {rest : List Nat} {st : Street}
    (ha : s.actors = p :: rest) (hs : getI s.stacks p ≠ 0) (hst : s.street cfg = some st)
    (hcount : s.cbrCount = 4) (a : Option Int) : s.verifyCbr cfg a = .error .valueError := by
  have hcap := (street_facts v sb bb st (street_of_variant hv hst)).1
  rw [hfl] at hcap
  exact C03_refuses_all (C03_cap ha hs hst hcap hcount) a

theorem C11_no_cap {v : Variant} {sb bb : Int} (hv : IsVariant cfg v sb bb)
    (hnf : (variantSpec v).structure_ ≠ .fixedLimit) {s : State} {st : Street}
    (hst : s.street cfg = some st) : st.maxCount = none := by
  have hcap := (street_facts v sb bb st (street_of_variant hv hst)).1
  rw [hcap]
  cases h : (variantSpec v).structure_ <;> simp_all [capOf]

theorem C11_no_limit_to_stack {v : Variant} {sb bb : Int} (hv : IsVariant cfg v sb bb)
    (hnl : (variantSpec v).structure_ = .noLimit) {s : State} {p : Nat}
    (hok : s.verifyCbr0 cfg = .ok p) :
    s.maxCbrTo cfg = .ok (some (getI s.stacks p + getI s.bets p)) :=
  C03_no_limit (hv.2.1.trans hnl) hok

theorem C11_pot_limit_to_pot {v : Variant} {sb bb : Int} (hv : IsVariant cfg v sb bb)
    (hpl : (variantSpec v).structure_ = .potLimit) {s : State} {p : Nat} {mn tp : Int}
    (hok : s.verifyCbr0 cfg = .ok p) (hm : s.minCbrTo cfg = .ok (some mn))
    (ht : s.totalPotAmount cfg = .ok tp) :
    s.maxCbrTo cfg = .ok (some (min (getI s.stacks p + getI s.bets p)
      (max mn (2 * maxI s.bets - getI s.bets p + tp)))) :=
  C03_pot_limit (hv.2.1.trans hpl) hok hm ht

theorem C11_structures :
    (Variant.all.map fun v => (variantSpec v).structure_) =
    [.fixedLimit, .noLimit, .noLimit, .noLimit, .potLimit, .fixedLimit, .fixedLimit, .fixedLimit,
     .fixedLimit, .noLimit, .fixedLimit, .fixedLimit] := by decide

theorem C11_split_two_halves (v : Variant) :
    (variantSpec v).handTypes.length =
      (if v = .fixedLimitOmahaHoldemHighLowSplitEightOrBetter ∨
          v = .fixedLimitSevenCardStudHighLowSplitEightOrBetter then 2 else 1) ∧
    ((variantSpec v).handTypes.length = 2 →
      ((variantSpec v).handTypes.map HandType.low) = [false, true]) := by
  cases v <;> decide

/-- how many cards a player holds at the end, down and up, how many community cards there are, how many draw rounds -/
theorem C11_card_counts :
    (Variant.all.map fun v =>
      let rows := (variantSpec v).rows
      ((rows.map (·.down)).sum, (rows.map (·.up)).sum, (rows.map (·.board)).sum, (rows.filter (·.draw)).length)) =
    [(2,0,5,0), (2,0,5,0), (2,0,5,0), (2,0,5,0), (4,0,5,0), (4,0,5,0),
     (3,4,0,0), (3,4,0,0), (3,4,0,0), (5,0,0,1), (5,0,0,3), (4,0,0,3)] := by decide +kernel

end PK
