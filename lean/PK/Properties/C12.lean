/-
  C12 — Automatic mucking and hand killing never cost a player chips he would have won.

  Theorems about the model (every strength function, i.e. every deal):

  * `C12_can_win_now`     `can_win_now(i)` is true exactly when on some board, for some hand
        type, for some pot, player i's full hand is at least the best hand shown by that pot's
        eligible players (or nobody eligible has shown one) — written out as a closed formula, when no
        evaluation raises
  * `C12_default_decision` with no argument the engine shows iff `all_in_status or can_win_now`;
        the cards shown are then all of the player's hole cards
  * `C12_kill_set`        when hand killing begins, exactly the live players who cannot win now
        are flagged (nobody when a single player is left, who takes the pots whatever he holds:
        `C12_lone_not_killed`, the repair of finding F24)
  * `C12_tournament_must_show` in tournament mode a show of fewer known cards than the player
        holds is refused (all-in or not, final street or not)
  * `C12_shown_dominated` a hand that is at most the current best of every pot/board/type it
        competes for does not change any maximum (`maxOrNone`) — the algebraic core of "mucking
        a hand that cannot win does not change any award"
  Partial: the two-run simulation "automatic showdown = everybody shows ⇒ equal payoffs" is not
  proved as a theorem; it is run on every showdown trace (monitor C12: the muck / kill decisions
  are re-derived with the independent ranking, and the hand is replayed with everybody tabling
  his full hand and the payoffs compared).
-/
import PK.Properties.C02
namespace PK
open State M

variable {cfg : Config} {env : Env}

theorem goTypes_spec (s : State) (p b : Nat) (ps : List Pot) (hps : s.pots cfg = .ok ps)
    (H : Nat → List (Option Int)) (ks : List Nat)
    (hH : ∀ k ∈ ks, s.getUpHands cfg env b k = .ok (H k)) :
    canWinNow.goTypes cfg env s p b ks =
      .ok (ks.any fun k => ps.any fun pot => winsPot (H k) (s.getHand cfg env p b k) pot) := by
  induction ks with
  | nil => rfl
  | cons k ks ih =>
    unfold canWinNow.goTypes
    rw [hH k (List.mem_cons_self ..), hps]
    simp only [List.any_cons]
    rw [ih (fun k' hk' => hH k' (List.mem_cons_of_mem _ hk'))]
    cases ps.any fun pot => winsPot (H k) (s.getHand cfg env p b k) pot <;> simp

theorem C12_can_win_now (s : State) (p : Nat) (ps : List Pot) (hps : s.pots cfg = .ok ps)
    (H : Nat → Nat → List (Option Int))
    (hH : ∀ b ∈ s.boardIndices cfg, ∀ k ∈ List.range cfg.handTypes.length,
      s.getUpHands cfg env b k = .ok (H b k)) :
    s.canWinNow cfg env p =
      .ok ((s.boardIndices cfg).any fun b => (List.range cfg.handTypes.length).any fun k =>
        ps.any fun pot => winsPot (H b k) (s.getHand cfg env p b k) pot) := by
  unfold State.canWinNow
  generalize s.boardIndices cfg = bs at hH ⊢
  induction bs with
  | nil => rfl
  | cons b bs ih =>
    unfold canWinNow.goBoards
    rw [goTypes_spec s p b ps hps (H b) _ (fun k hk => hH b (List.mem_cons_self ..) k hk)]
    simp only [List.any_cons]
    cases hx : (List.range cfg.handTypes.length).any fun k =>
        ps.any fun pot => winsPot (H b k) (s.getHand cfg env p b k) pot
    · simp only [Bool.false_or]
      exact ih (fun b' hb' => hH b' (List.mem_cons_of_mem _ hb'))
    · simp

theorem C12_default_decision (s : State) (p : Nat) :
    s.showExplicit cfg env .none p =
      (if s.allIn then .ok ⟨(true, none), false⟩
       else match s.canWinNow cfg env p with
         | .error e => .error e
         | .ok b => .ok ⟨(b, none), false⟩) ∧
    showTriple (s.holeOf p) true none = (s.holeOf p, s.holeOf p, List.replicate (s.holeOf p).length true) ∧
    showTriple (s.holeOf p) false none = ([], [], []) :=
  ⟨rfl, rfl, rfl⟩

/-- the loop of `_begin_hand_killing` (`killStep` of the model) over the players `is`: each of them still in the
    hand gets his flag set (to a value that does not depend on the flags, so `is` may repeat) -/
theorem kill_fold (s : State) (W : Nat → Bool)
    (hW : ∀ i, i < cfg.n → getB s.statuses i = true → s.canWinNow cfg env i = .ok (W i))
    (is : List Nat) (his : ∀ i ∈ is, i < cfg.n) (l : List Bool) (hl : l.length = cfg.n) :
    ∃ hk, is.foldl (killStep cfg env s) (.ok l) = .ok hk ∧ hk.length = cfg.n ∧
      ∀ j, getB hk j =
        (if j ∈ is ∧ getB s.statuses j = true then (decide (1 < s.liveCount) && !W j) else getB l j) := by
  induction is generalizing l with
  | nil => exact ⟨l, rfl, hl, fun j => by simp⟩
  | cons i is ih =>
    have hi : i < cfg.n := his i List.mem_cons_self
    have his' : ∀ j ∈ is, j < cfg.n := fun j hj => his j (List.mem_cons_of_mem _ hj)
    by_cases hs : getB s.statuses i = true
    · have hstep : killStep cfg env s (.ok l) i = .ok (l.set i (decide (1 < s.liveCount) && !W i)) := by
        unfold killStep
        by_cases hlc : s.liveCount ≤ 1
        · simp [hs, hlc, Nat.not_lt.2 hlc]
        · simp [hs, hlc, Nat.lt_of_not_le hlc, hW i hi hs]
      obtain ⟨hk, h1, h2, h3⟩ := ih his' (l.set i (decide (1 < s.liveCount) && !W i)) (by simp [hl])
      refine ⟨hk, by rw [List.foldl_cons, hstep, h1], h2, fun j => ?_⟩
      rw [h3 j, getB_set _ _ _ _ (hl ▸ hi)]
      by_cases hji : j = i
      · subst hji; simp [hs]
      · simp [hji, Ne.symm hji]
    · have hstep : killStep cfg env s (.ok l) i = .ok l := by
        unfold killStep; simp [hs]
      obtain ⟨hk, h1, h2, h3⟩ := ih his' l hl
      refine ⟨hk, by rw [List.foldl_cons, hstep, h1], h2, fun j => ?_⟩
      rw [h3 j]
      by_cases hji : j = i
      · subst hji; simp [hs]
      · simp [hji]

theorem C12_kill_set (m : M) (rest : List Ctl) (hctl : m.ctl = .beginKill :: rest)
    (hclear : anyB m.st.handKilling = false) (W : Nat → Bool)
    (hW : ∀ i, i < cfg.n → getB m.st.statuses i = true → m.st.canWinNow cfg env i = .ok (W i))
    (hlen : m.st.handKilling.length = cfg.n) :
    ∃ hk, (step cfg env m).st = { m.st with handKilling := hk } ∧
      (step cfg env m).ctl = .updKill none :: rest ∧ hk.length = cfg.n ∧
      ∀ i, i < cfg.n → getB hk i =
        (if getB m.st.statuses i then (decide (1 < m.st.liveCount) && !W i) else getB m.st.handKilling i) := by
  obtain ⟨hk, h1, h2, h3⟩ := kill_fold m.st W hW (playerIndices cfg) (fun i hi => List.mem_range.1 hi) _ hlen
  have hstep : step cfg env m = m.cont { m.st with handKilling := hk } [.updKill none] rest := by
    step_at hctl
    simp only [hclear, Bool.false_eq_true, if_false, h1]
  exact ⟨hk, by rw [hstep]; rfl, by rw [hstep]; rfl, h2, fun i hi => by rw [h3 i]; simp [playerIndices, hi]⟩

theorem C12_lone_not_killed (m : M) (rest : List Ctl) (hctl : m.ctl = .beginKill :: rest)
    (hclear : anyB m.st.handKilling = false) (W : Nat → Bool)
    (hW : ∀ i, i < cfg.n → getB m.st.statuses i = true → m.st.canWinNow cfg env i = .ok (W i))
    (hlen : m.st.handKilling.length = cfg.n) (hlone : m.st.liveCount = 1) (i : Nat) (hi : i < cfg.n)
    (hs : getB m.st.statuses i = true) : getB (step cfg env m).st.handKilling i = false := by
  obtain ⟨hk, e1, _, _, h3⟩ := C12_kill_set m rest hctl hclear W hW hlen
  rw [e1]
  show getB hk i = false
  rw [h3 i hi, hs]; simp [hlone]

theorem C12_tournament_must_show (s : State) (p : Nat) (t : List Card × List Card × List Bool) (w : Bool)
    (ht : cfg.tournament = true) (hfew : (t.1.filter Card.known).length < (s.holeOf p).length) :
    s.showFinal cfg p true t w = .error .valueError := by
  unfold State.showFinal
  simp [ht, hfew]

/-- no successful show in tournament mode leaves a hole card hidden -/
theorem C12_tournament_shows_all (s : State) (arg : ShowArg) (i : Option Nat) (v : Verdict ShowPlan)
    (ht : cfg.tournament = true) (h : s.verifyShow cfg env arg i = .ok v) (hst : v.val.status = true) :
    (v.val.cards.filter Card.known).length ≥ (s.holeOf v.val.player).length := by
  unfold State.verifyShow at h
  split at h
  · cases h
  · split at h
    · cases h
    · rename_i p _
      split at h
      · cases h
      · rename_i ve _
        unfold State.showFinal at h
        simp only [ht, Bool.true_and] at h
        split at h
        · cases h
        next hc =>
        -- the other checks only refuse
        split at h
        · cases h
        split at h
        · cases h
        split at h
        · cases h
        cases h
        simp only at hst ⊢
        rw [hst] at hc ⊢
        simpa using hc

/-- `hne` follows from `hx`: only no hand is at most no hand -/
theorem C12_shown_dominated (l : List (Option Int)) (x : Option Int) (hx : optLe x (maxOrNone l))
    (hne : maxOrNone l ≠ none ∨ x = none) : maxOrNone (l ++ [x]) = maxOrNone l := by
  unfold maxOrNone at *
  rw [List.foldl_append]
  simp only [List.foldl_cons, List.foldl_nil]
  generalize l.foldl _ none = m at hx ⊢
  cases m <;> cases x <;> simp_all [optLe]
  omega

/-- when the showdown leaves one player in the hand, `_end_showdown` goes on to hand killing (where that player is
    not flagged: `C12_lone_not_killed`) and runs out no board for him (the repair 0c01c5a of finding F11) -/
theorem C12_lone_showdown_stops (m : M) (rest : List Ctl) (hctl : m.ctl = .endShow :: rest)
    (hclear : (anyB m.st.runoutSelectors || !m.st.showdown.isEmpty) = false) (si : Int)
    (hsi : m.st.streetIndex = some si) (hlone : m.st.liveCount ≤ 1) :
    (step cfg env m).ctl = .beginKill :: rest ∧ (step cfg env m).st.liveCount = m.st.liveCount := by
  have hlc : (m.st.closeShowdown si).liveCount = m.st.liveCount := by rw [closeShowdown_eq]; rfl
  rw [step_endShow_eq hctl, hclear, hsi]
  simp only [Bool.false_eq_true, if_false]
  rw [hlc, if_neg (by simp [Nat.not_lt.2 hlone])]
  exact ⟨rfl, hlc⟩

end PK
