/-
  C13 — the right player opens each betting round.

  What is proved here, for every configuration, state and (in stud) every assignment of up-cards:
  * `C13_position_opener`     button games: the designated opener is the seat after the seat holding
                              the largest genuine blind or straddle in front of him (a late-seated
                              player's post — negative layout entry — never counts, heads-up the two
                              layout entries belong to the opposite seats), the latest such seat on ties.
  * `C13_later_rounds`        when nobody has a genuine blind in front of him (every later round:
                              the bets have been collected) the designated opener is seat 0, the
                              first seat after the button.
  * `C13_heads_up`            heads-up the button (seat 1) is designated exactly when more counts in
                              front of seat 0 than in front of him.  Special cases:
  * `C13_heads_up_button_first`  heads-up with a small and a bigger big blind posted in full, the
                              small blind / button (seat 1) opens the first round.
  * `C13_heads_up_tie_seat0`, `C13_heads_up_reversed`  heads-up when the amounts counting in front of
                              the two seats are equal (two equal blinds; every later street) or the
                              bigger one is in front of seat 1, seat 0 is designated: the tie-break of
                              the code (latest seat = last blind).
  * `C13_low_card`, `C13_high_card`   stud, first round: the designated opener (who posts the bring-in) shows the
                              lowest up-card of all, ace high; in razz the highest, ace low; ranks first and
                              suits — c < d < h < s — breaking ties (`upcard_opener`, for any rank order and
                              either direction, adds that he is the first seat showing that card).
  * `C13_low_hand`, `C13_high_hand`   later rounds: the designated opener's exposed hand has the lowest entry of
                              the ace-low opening table (razz) / the highest of the ace-high one (stud), and no
                              earlier seat ties it (`hand_opener`, for any strict order on the entries).
  * `C13_first_actor`         the betting queue built by `_begin_betting` is the seats clockwise from
                              the designated opener that are still able to act: a designated opener
                              who is all-in (or cannot be called) passes the turn clockwise.  On the
                              first street of a bring-in game the round starts with the bring-in
                              pending, so the opener's only actions are the bring-in or a completion
                              (with `C03_bring_in_first`).
  All four stud rules are `vals.index(min_or_none(vals))` (or `max`) over one value per seat: one
  theorem about that (`index_pickBy`, with python's `min`/`max`/`index` in `PK.Proofs.Select`) serves them.
  The ranking of exposed hands itself is the content of the two opening lookup tables: that the tables rank by the
  rules is C13Table.lean; that the model's tables are state.py's is compared exhaustively by the C13 check.
-/
import PK.Proofs.RoundLemmas
import PK.Proofs.Select
import PK.Proofs.Step
namespace PK
open State M

variable {cfg : Config} {env : Env}

theorem C13_position_opener (s : State) (st : Street) (hst : s.street cfg = some st)
    (hop : st.opening = .position) (hn : 0 < cfg.n) :
    ∃ m, openerOf cfg env s = .ok ((m + 1) % cfg.n) ∧ m < cfg.n ∧
      ∀ j < cfg.n, positionKey cfg s j ≤ positionKey cfg s m ∧
        (positionKey cfg s j = positionKey cfg s m → j ≤ m) := by
  obtain ⟨m, hm, hlt, hall⟩ := argmaxKey_range (positionKey cfg s) cfg.n hn
  refine ⟨m, ?_, hlt, hall⟩
  unfold openerOf
  simp only [hst, hop, playerIndices, hm]

/-- a late-seated player's post (negative layout entry) and a seat without an entry count for
    nothing — exactly like having nothing in front of him, so it cannot even break a tie -/
theorem C13_posts_do_not_count (s : State) (i : Nat) (h : blindEntry cfg i ≤ 0) (hb : 0 ≤ getI s.bets i) :
    positionKey cfg s i = 0 := by
  unfold positionKey sign
  split
  · omega
  · split <;> omega

/-- a genuine blind or straddle counts as what is in front of its poster -/
theorem C13_blinds_count (s : State) (i : Nat) (h : 0 < blindEntry cfg i) (hb : 0 ≤ getI s.bets i) :
    positionKey cfg s i = getI s.bets i := by
  unfold positionKey sign
  rw [if_pos h]
  omega

theorem C13_later_rounds (s : State) (st : Street) (hst : s.street cfg = some st)
    (hop : st.opening = .position) (hn : 0 < cfg.n)
    (hz : ∀ j < cfg.n, positionKey cfg s j = 0) :
    openerOf cfg env s = .ok 0 := by
  obtain ⟨m, hm, hlt, hall⟩ := C13_position_opener (env := env) s st hst hop hn
  have : m + 1 = cfg.n := by
    have := (hall (cfg.n - 1) (by omega)).2 (by rw [hz _ (by omega), hz _ hlt])
    omega
  rw [hm, this, Nat.mod_self]

theorem C13_heads_up (s : State) (st : Street) (hst : s.street cfg = some st)
    (hop : st.opening = .position) (hn : cfg.n = 2) :
    openerOf cfg env s = .ok (if positionKey cfg s 1 < positionKey cfg s 0 then 1 else 0) := by
  obtain ⟨m, hm, hlt, hall⟩ := C13_position_opener (env := env) s st hst hop (by omega)
  rcases (by omega : m = 0 ∨ m = 1) with rfl | rfl
  · have := hall 1 (by omega)
    rw [hm, hn, if_pos (by omega)]
  · have := hall 0 (by omega)
    rw [hm, hn, if_neg (by omega)]

theorem C13_heads_up_button_first (s : State) (st : Street) (hst : s.street cfg = some st)
    (hop : st.opening = .position) (hn : cfg.n = 2)
    (h0 : 0 < blindEntry cfg 0) (hb : getI s.bets 1 < getI s.bets 0)
    (h1 : 0 ≤ getI s.bets 1) :
    openerOf cfg env s = .ok 1 := by
  rw [C13_heads_up s st hst hop hn, if_pos]
  rw [C13_blinds_count s 0 h0 (by omega)]
  by_cases hp : 0 < blindEntry cfg 1
  · rw [C13_blinds_count s 1 hp h1]
    exact hb
  · rw [C13_posts_do_not_count s 1 (by omega) h1]
    omega

/-- on later streets this is what the property demands; for two equal posted blinds it is only the code's
    tie-break (DESIGN §11.10) -/
theorem C13_heads_up_tie_seat0 (s : State) (st : Street) (hst : s.street cfg = some st)
    (hop : st.opening = .position) (hn : cfg.n = 2)
    (heq : positionKey cfg s 0 = positionKey cfg s 1) :
    openerOf cfg env s = .ok 0 := by
  rw [C13_heads_up s st hst hop hn, if_neg (by omega)]

/-- a reversed layout: the entries are written button-last -/
theorem C13_heads_up_reversed (s : State) (st : Street) (hst : s.street cfg = some st)
    (hop : st.opening = .position) (hn : cfg.n = 2)
    (hlt' : positionKey cfg s 0 < positionKey cfg s 1) :
    openerOf cfg env s = .ok 0 := by
  rw [C13_heads_up s st hst hop hn, if_neg (by omega)]

/-- the last step of every stud rule: `.index` did not raise -/
theorem index_of_ok {o : Option Nat} {i : Nat}
    (h : (match o with
          | some i => .ok i
          | none => .error .valueError) = (.ok i : Except Err Nat)) : o = some i := by
  cases o with
  | none => cases h
  | some k => cases h; rfl

/-- (the suits are compared as `Nat`s for `omega`, which does not see through `Suit`) -/
theorem cardKeyLt_iff (ro : List Rank) (a b : Card) :
    cardKeyLt ro a b = true ↔
      (ro.idxOf a.rank < ro.idxOf b.rank ∨
        (ro.idxOf a.rank = ro.idxOf b.rank ∧ @LT.lt Nat _ a.suit b.suit)) := by
  simp [cardKeyLt]

/-- the order `pickCard` selects by: `card_key` ascending for `min`, descending for `max` -/
def cardBetter (ro : List Rank) (low : Bool) : Card → Card → Bool :=
  if low then cardKeyLt ro else fun a b => cardKeyLt ro b a

theorem pickCard_eq (ro : List Rank) (low : Bool) (cs : List Card) :
    pickCard ro low cs =
      if cs.any (fun c => !ro.contains c.rank) then none else pickBy (cardBetter ro low) cs := rfl

theorem cardBetter_irrefl (ro : List Rank) (low : Bool) (a : Card) : cardBetter ro low a a = false := by
  cases low <;> simp [cardBetter, cardKeyLt]

theorem cardBetter_trans (ro : List Rank) (low : Bool) (a b c : Card)
    (h1 : cardBetter ro low a b = false) (h2 : cardBetter ro low c b = true) :
    cardBetter ro low a c = false := by
  cases low <;>
    simp only [cardBetter, ↓reduceIte, Bool.false_eq_true, ← Bool.not_eq_true, cardKeyLt_iff] at * <;>
    omega

theorem cardBetter_chain (ro : List Rank) (low : Bool) (a b c : Card)
    (h1 : cardBetter ro low a b = false) (h2 : cardBetter ro low b c = false) :
    cardBetter ro low a c = false := by
  cases low <;>
    simp only [cardBetter, ↓reduceIte, Bool.false_eq_true, ← Bool.not_eq_true, cardKeyLt_iff] at * <;>
    omega

/-- the up-card selection of one seat: `none` when the seat shows nothing rankable -/
def seatCard (ro : List Rank) (low : Bool) (s : State) (i : Nat) : Option Card :=
  pickCard ro low (s.upCards i)

theorem pickCard_spec (ro : List Rank) (low : Bool) (cs : List Card) (c : Card)
    (h : pickCard ro low cs = some c) :
    c ∈ cs ∧ (∀ c' ∈ cs, ro.contains c'.rank = true) ∧
      ∀ c' ∈ cs, cardBetter ro low c' c = false := by
  rw [pickCard_eq] at h
  split at h
  · cases h
  · rename_i hany
    rcases pickBy_spec _ (cardBetter_irrefl ro low) (cardBetter_trans ro low) cs with
      ⟨_, hn⟩ | ⟨m, hm, hmem, hall⟩
    · rw [hn] at h
      cases h
    · rw [hm] at h
      cases h
      exact ⟨hmem, by simpa using hany, hall⟩

/-- `hsome`: when no seat shows a rankable card every value is `None`, `min_or_none` answers `None` and
    `.index(None)` designates seat 0, which shows nothing -/
theorem upcard_opener (ro : List Rank) (low : Bool) (s : State) (i : Nat)
    (h : (match indexOf? ((playerIndices cfg).map (seatCard ro low s))
            (pickCard ro low (((playerIndices cfg).map (seatCard ro low s)).filterMap id)) with
          | some i => .ok i
          | none => .error .valueError) = (.ok i : Except Err Nat))
    (hsome : ∃ j < cfg.n, seatCard ro low s j ≠ none) :
    i < cfg.n ∧ ∃ c, seatCard ro low s i = some c ∧ c ∈ s.upCards i ∧
      (∀ j < cfg.n, seatCard ro low s j ≠ none → ∀ x ∈ s.upCards j, cardBetter ro low x c = false) ∧
      ∀ j < i, seatCard ro low s j ≠ some c := by
  have h := index_of_ok h
  -- every seat's selection has a rank of the order, so the outer selection is a plain `pickBy`
  have hrank : ¬ (((playerIndices cfg).map (seatCard ro low s)).filterMap id).any
      (fun c => !ro.contains c.rank) = true := by
    simp only [List.any_eq_true, List.mem_filterMap, List.mem_map, id]
    rintro ⟨c, ⟨_, ⟨j, _, hj⟩, rfl⟩, hc⟩
    obtain ⟨hmem, hall, _⟩ := pickCard_spec ro low _ c hj
    rw [hall c hmem] at hc
    cases hc
  rw [pickCard_eq, if_neg hrank] at h
  obtain ⟨hi, c, hci, hall, hfirst⟩ := index_pickBy _ (cardBetter_irrefl ro low) (cardBetter_trans ro low)
    _ (seatCard ro low s) cfg.n i (by simp [playerIndices]) (fun j hj => by simp [playerIndices, hj])
    h hsome
  refine ⟨hi, c, hci, (pickCard_spec ro low _ c hci).1, fun j hj hjn x hx => ?_, hfirst⟩
  obtain ⟨c', hc'⟩ := Option.ne_none_iff_exists'.mp hjn
  -- `x` does not beat seat `j`'s own selection `c'`, which does not beat `c`
  exact cardBetter_chain ro low x c' c ((pickCard_spec ro low _ c' hc').2.2 x hx) (hall j hj c' hc')

theorem C13_low_card (s : State) (st : Street) (hst : s.street cfg = some st)
    (hop : st.opening = .lowCard) (i : Nat) (h : openerOf cfg env s = .ok i)
    (hsome : ∃ j < cfg.n, seatCard RankOrder.standard true s j ≠ none) :
    i < cfg.n ∧ ∃ c, c ∈ s.upCards i ∧
      ∀ j < cfg.n, seatCard RankOrder.standard true s j ≠ none →
        ∀ x ∈ s.upCards j, cardKeyLt RankOrder.standard x c = false := by
  unfold openerOf at h
  simp only [hst, hop] at h
  obtain ⟨hi, c, _, hc, hall, _⟩ := upcard_opener (cfg := cfg) RankOrder.standard true s i h hsome
  exact ⟨hi, c, hc, hall⟩

theorem C13_high_card (s : State) (st : Street) (hst : s.street cfg = some st)
    (hop : st.opening = .highCard) (i : Nat) (h : openerOf cfg env s = .ok i)
    (hsome : ∃ j < cfg.n, seatCard RankOrder.regular false s j ≠ none) :
    i < cfg.n ∧ ∃ c, c ∈ s.upCards i ∧
      ∀ j < cfg.n, seatCard RankOrder.regular false s j ≠ none →
        ∀ x ∈ s.upCards j, cardKeyLt RankOrder.regular c x = false := by
  unfold openerOf at h
  simp only [hst, hop] at h
  obtain ⟨hi, c, _, hc, hall, _⟩ := upcard_opener (cfg := cfg) RankOrder.regular false s i h hsome
  exact ⟨hi, c, hc, hall⟩

/-- the opening-table entry of seat `j`'s exposed cards (`none`: the cards are not in the table) -/
def seatEntry (env : Env) (low : Bool) (s : State) (j : Nat) : Option Nat :=
  match env.openEntry low (s.upCards j) with
  | .ok e => e
  | .error _ => none

/-- `hsome`: when no seat's exposed cards are in the table, `.index(None)` designates seat 0 -/
theorem hand_opener (low : Bool) (better : Nat → Nat → Bool) (irrefl : ∀ a, better a a = false)
    (trans : ∀ a b c, better a b = false → better c b = true → better a c = false)
    (s : State) (i : Nat)
    (h : (match mapExcept (fun i => match env.openEntry low (s.upCards i) with
              | .ok e => .ok e
              | .error e => .error (evalErr e)) (playerIndices cfg) with
          | .error e => .error e
          | .ok entries =>
            match indexOf? entries (pickBy better (entries.filterMap id)) with
            | some i => .ok i
            | none => .error .valueError) = (.ok i : Except Err Nat))
    (hsome : ∃ j < cfg.n, seatEntry env low s j ≠ none) :
    i < cfg.n ∧ ∃ e, seatEntry env low s i = some e ∧
      (∀ j < cfg.n, ∀ e', seatEntry env low s j = some e' → better e' e = false) ∧
      ∀ j < i, seatEntry env low s j ≠ some e := by
  split at h
  · cases h
  · rename_i entries hent
    obtain ⟨hlen, hget⟩ := mapExcept_getElem? _ _ _ hent
    refine index_pickBy better irrefl trans entries (seatEntry env low s) cfg.n i
      (by simpa [playerIndices] using hlen) (fun j hj => ?_) (index_of_ok h) hsome
    obtain ⟨y, hy, hg⟩ := hget j (by simpa [playerIndices] using hj)
    rw [hg]
    simp only [playerIndices, List.getElem_range] at hy
    unfold seatEntry
    split at hy
    · cases hy
      rfl
    · cases hy

theorem C13_low_hand (s : State) (st : Street) (hst : s.street cfg = some st)
    (hop : st.opening = .lowHand) (i : Nat) (h : openerOf cfg env s = .ok i)
    (hsome : ∃ j < cfg.n, seatEntry env true s j ≠ none) :
    i < cfg.n ∧ ∃ e, seatEntry env true s i = some e ∧
      (∀ j < cfg.n, ∀ e', seatEntry env true s j = some e' → e ≤ e') ∧
      ∀ j < i, seatEntry env true s j ≠ some e := by
  unfold openerOf at h
  simp only [hst, hop] at h
  obtain ⟨hi, e, he, hall, hfirst⟩ := hand_opener true _ (by simp)
    (by simp only [decide_eq_false_iff_not, decide_eq_true_eq]; omega) s i h hsome
  exact ⟨hi, e, he, fun j hj e' he' => Nat.not_lt.mp (of_decide_eq_false (hall j hj e' he')), hfirst⟩

theorem C13_high_hand (s : State) (st : Street) (hst : s.street cfg = some st)
    (hop : st.opening = .highHand) (i : Nat) (h : openerOf cfg env s = .ok i)
    (hsome : ∃ j < cfg.n, seatEntry env false s j ≠ none) :
    i < cfg.n ∧ ∃ e, seatEntry env false s i = some e ∧
      (∀ j < cfg.n, ∀ e', seatEntry env false s j = some e' → e' ≤ e) ∧
      ∀ j < i, seatEntry env false s j ≠ some e := by
  unfold openerOf at h
  simp only [hst, hop] at h
  obtain ⟨hi, e, he, hall, hfirst⟩ := hand_opener false _ (by simp)
    (by simp only [decide_eq_false_iff_not, decide_eq_true_eq]; omega) s i h hsome
  exact ⟨hi, e, he, fun j hj e' he' => Nat.not_lt.mp (of_decide_eq_false (hall j hj e' he')), hfirst⟩

/-- the removal loop of `_begin_betting` when `get_effective_stack` does not fail -/
theorem removal_loop (s : State) (L : List Nat) (hL : L.Nodup)
    (hE : ∀ i, getB s.statuses i = true → getI s.stacks i ≠ 0 → ∃ e, s.effectiveStack cfg i = .ok e) :
    (playerIndices cfg).foldl (dropBody cfg s) (L, none)
      = (L.filter (fun i => !(cannotAct cfg s i && decide (i < cfg.n))), none) := by
  -- the error flag is never raised: the loop is the plain one on the first component
  refine (List.foldl_hom (fun acc => (acc, none))
    (g₁ := fun acc i => if cannotAct cfg s i then acc.erase i else acc) fun acc i => ?_).trans ?_
  · simp only [dropBody, cannotAct]
    by_cases hst : getB s.statuses i = true
    · by_cases hsk : getI s.stacks i = 0
      · simp [hsk]
      · obtain ⟨e, he⟩ := hE i hst hsk
        by_cases h0 : e = 0 <;> simp [hst, hsk, he, h0]
    · simp [hst]
  · rw [foldl_erase_filter _ _ _ hL]
    simp [playerIndices]

/-- `hE`: the effective stack is defined, i.e. at least two players are in the hand -/
theorem C13_first_actor (m : M) (rest : List Ctl) (o : Nat) (hctl : m.ctl = .beginBet :: rest)
    (ho : openerOf cfg env { m.st with openerIndex := none } = .ok o)
    (hE : ∀ i, getB m.st.statuses i = true → getI m.st.stacks i ≠ 0 →
      ∃ e, m.st.effectiveStack cfg i = .ok e) :
    (step cfg env m).st.actors =
      (rotatedRange cfg.n o).filter (fun i => !(cannotAct cfg m.st i && decide (i < cfg.n))) ∧
    (step cfg env m).st.openerIndex = some o ∧
    (step cfg env m).st.bringInStatus = (m.st.streetIsFirst && decide (cfg.bringIn > 0)) ∧
    (step cfg env m).err = m.err := by
  have hloop := removal_loop m.st _ (nodup_rotatedRange cfg.n o) hE
  step_at hctl
  simp only [ho]
  split
  · rename_i actors e hfold
    cases hfold.symm.trans hloop
  · rename_i actors hfold
    exact ⟨congrArg Prod.fst (hfold.symm.trans hloop), rfl, rfl, rfl⟩

end PK
