/-
  C13, kernel evaluation — the two stud-opening lookups (`_LowHandOpeningLookup`, `_HighHandOpeningLookup`
  of state.py as modelled in PK.Model.Lookup) against `PK.Spec.exposedKey` on every signature one to four
  distinct cards can have (see PK.Properties.C04Kernel for the method).
-/
import PK.Proofs.TableCheck
namespace PK
open PK.Spec PK.TableCheck

set_option maxRecDepth 100000 in
theorem lowOpening_table_ok :
    tableOk LookupId.lowOpening.builder.finish (exposedKey valueLow) exposedLabel upSigs = true := by decide +kernel

end PK
