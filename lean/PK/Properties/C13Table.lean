/-
  C13, the content of the two stud-opening lookups — **the player who opens a later stud round is the one
  the rules name**: `_begin_betting` compares the players' exposed cards by their index in
  `_HighHandOpeningLookup` (seven card stud: highest exposed hand) or `_LowHandOpeningLookup` (razz: lowest,
  ace low); `C13_high_hand` / `C13_low_hand` show the opener is the arg-max / arg-min of that index; this
  file shows what the index *is*:

  * `lowOpening_table_ok`, `highOpening_table_ok` (`PK.Properties.C13Kernel*`): the kernel evaluates the
    model's construction of both tables and `PK.Spec.exposedKey` on all 3 458 signatures one to four
    distinct cards can have, and checks entries, labels and order;
  * `C13_opening_table`: for **any** two lists of one to four distinct known cards, in any order, both
    have an entry, and `index a < index b` / `=` exactly when the rules rank `a`'s exposed hand below /
    level with `b`'s — four of a kind > three of a kind > two pair > one pair > no pair, then the ranks
    by (multiplicity, rank), straights and flushes not counting, suits never breaking a tie;
  * `C13_opening_same_size`: between hands of the same number of cards (the only comparison the game
    makes) the number of cards drops out of the key;
  * `C13_low_hand_rules`, `C13_high_hand_rules`: with the tables of the code, the designated opener of a later
    round shows the lowest exposed hand under the rules in razz (ace low, pairs count, straights and flushes
    do not), the highest in seven card stud (ace high): nobody with as many exposed cards ranks strictly
    better, and nobody before him ties him.
-/
import PK.Properties.C13KernelLow
import PK.Properties.C13KernelHigh
import PK.Properties.C04Table
import PK.Properties.C13
namespace PK
open PK.Spec PK.TableCheck M

/-- ace low in razz's table, ace high in stud's -/
def openValue (low : Bool) : Rank → Nat := if low then valueLow else valueHigh

theorem C13_opening_table (low : Bool) (a b : List Card) (ha : UpCards a) (hb : UpCards b) :
    ∃ i j, openEntryOf Tables.build low a = .ok (some i) ∧ openEntryOf Tables.build low b = .ok (some j) ∧
      (i < j ↔ lexLt (exposedKey (openValue low) (a.map (·.rank)) (areSuited a))
                     (exposedKey (openValue low) (b.map (·.rank)) (areSuited b)) = true) ∧
      (i = j ↔ exposedKey (openValue low) (a.map (·.rank)) (areSuited a) =
               exposedKey (openValue low) (b.map (·.rank)) (areSuited b)) := by
  have hok : tableOk (if low then LookupId.lowOpening else .highOpening).builder.finish
      (exposedKey (openValue low)) exposedLabel upSigs = true := by
    cases low
    · exact highOpening_table_ok
    · exact lowOpening_table_ok
  have hrb : (if low then LookupId.lowOpening else .highOpening).rainbow = false := by
    cases low <;> rfl
  -- `.inl hrb` twice: the lookup is not rainbow-restricted; then for `a` and for `b`: the ranks sorted (the `_`),
  -- that they permute the cards' ranks, that the signature is among the checked ones, that the key ignores the order
  obtain ⟨x, y, hx, hy, _, h⟩ :=
    entry_of_check Tables.build _ _ (tbl_eq _) (exposedKey (openValue low)) exposedLabel upSigs hok a b
      (.inl hrb) (.inl hrb) _ (sortedRanks_perm a) (up_sig ha) (exposedKey_perm _ (sortedRanks_perm a) _)
      _ (sortedRanks_perm b) (up_sig hb) (exposedKey_perm _ (sortedRanks_perm b) _)
  exact ⟨x.index, y.index, by simp [openEntryOf, hx], by simp [openEntryOf, hy], h⟩

/-- `exposedKey` without its second component, the number of cards -/
def exposedRank (value : Rank → Nat) (ranks : List Rank) : List Nat :=
  match exposedKey value ranks false with
  | c :: _ :: t => c :: t
  | k => k

theorem exposedKey_shape (value : Rank → Nat) (ranks : List Rank) (s : Bool) :
    ∃ c t, exposedKey value ranks s = c :: ranks.length :: t ∧ exposedRank value ranks = c :: t := by
  unfold exposedRank exposedKey
  exact ⟨_, _, rfl, rfl⟩

theorem lexLt_skip (c c' n : Nat) (t t' : List Nat) :
    lexLt (c :: n :: t) (c' :: n :: t') = lexLt (c :: t) (c' :: t') := by
  simp only [lexLt, Nat.lt_irrefl, if_false, if_true]

theorem C13_opening_same_size (low : Bool) (a b : List Card) (ha : UpCards a) (hb : UpCards b)
    (hlen : a.length = b.length) :
    ∃ i j, openEntryOf Tables.build low a = .ok (some i) ∧ openEntryOf Tables.build low b = .ok (some j) ∧
      (i < j ↔ lexLt (exposedRank (openValue low) (a.map (·.rank)))
                     (exposedRank (openValue low) (b.map (·.rank))) = true) ∧
      (i = j ↔ exposedRank (openValue low) (a.map (·.rank)) = exposedRank (openValue low) (b.map (·.rank))) := by
  obtain ⟨i, j, hi, hj, h1, h2⟩ := C13_opening_table low a b ha hb
  obtain ⟨ca, ta, hka, hra⟩ := exposedKey_shape (openValue low) (a.map (·.rank)) (areSuited a)
  obtain ⟨cb, tb, hkb, hrb⟩ := exposedKey_shape (openValue low) (b.map (·.rank)) (areSuited b)
  refine ⟨i, j, hi, hj, ?_, ?_⟩
  · rw [h1, hka, hkb, hra, hrb, List.length_map, List.length_map, hlen, lexLt_skip]
  · rw [h2, hka, hkb, hra, hrb, List.length_map, List.length_map, hlen]
    simp

/-- premises satisfiable, statement not vacuous: a pair of deuces showing beats ace-king showing in stud -/
example : UpCards [⟨1, 0⟩, ⟨1, 1⟩] ∧ UpCards [⟨0, 0⟩, ⟨12, 1⟩] ∧
    lexLt (exposedRank valueHigh [0, 12]) (exposedRank valueHigh [1, 1]) = true := by
  refine ⟨⟨by decide, by decide, by decide, by decide⟩, ⟨by decide, by decide, by decide, by decide⟩, by decide⟩

variable {cfg : Config} {env : Env}

theorem seatEntry_of_table (henv : env.openEntry = openEntryOf Tables.build) (low : Bool) (s : State)
    (j : Nat) (i : Nat) (h : openEntryOf Tables.build low (s.upCards j) = .ok (some i)) :
    seatEntry env low s j = some i := by
  unfold seatEntry
  rw [henv, h]

theorem C13_low_hand_rules (henv : env.openEntry = openEntryOf Tables.build)
    (s : State) (st : Street) (hst : s.street cfg = some st)
    (hop : st.opening = .lowHand) (i : Nat) (h : openerOf cfg env s = .ok i) (hi : i < cfg.n)
    (hup : UpCards (s.upCards i)) (j : Nat) (hj : j < cfg.n) (hupj : UpCards (s.upCards j))
    (hlen : (s.upCards j).length = (s.upCards i).length) :
    lexLt (exposedRank valueLow ((s.upCards j).map (·.rank)))
          (exposedRank valueLow ((s.upCards i).map (·.rank))) = false ∧
    (j < i → exposedRank valueLow ((s.upCards j).map (·.rank)) ≠
             exposedRank valueLow ((s.upCards i).map (·.rank))) := by
  obtain ⟨a, b, ha, hb, hlt, heq⟩ := C13_opening_same_size true _ _ hupj hup hlen
  have sj := seatEntry_of_table henv true s j a ha
  have si := seatEntry_of_table henv true s i b hb
  obtain ⟨_, e, hse, hmin, hfirst⟩ := C13_low_hand s st hst hop i h ⟨i, hi, by rw [si]; simp⟩
  rw [si] at hse; cases hse
  have hle := hmin j hj a sj
  simp only [openValue, if_true] at hlt heq
  refine ⟨Bool.eq_false_iff.2 fun hl => ?_, fun hji hne => hfirst j hji (by rw [sj, heq.2 hne])⟩
  have := hlt.2 hl
  omega

theorem C13_high_hand_rules (henv : env.openEntry = openEntryOf Tables.build)
    (s : State) (st : Street) (hst : s.street cfg = some st)
    (hop : st.opening = .highHand) (i : Nat) (h : openerOf cfg env s = .ok i) (hi : i < cfg.n)
    (hup : UpCards (s.upCards i)) (j : Nat) (hj : j < cfg.n) (hupj : UpCards (s.upCards j))
    (hlen : (s.upCards j).length = (s.upCards i).length) :
    lexLt (exposedRank valueHigh ((s.upCards i).map (·.rank)))
          (exposedRank valueHigh ((s.upCards j).map (·.rank))) = false ∧
    (j < i → exposedRank valueHigh ((s.upCards j).map (·.rank)) ≠
             exposedRank valueHigh ((s.upCards i).map (·.rank))) := by
  obtain ⟨b, a, hb, ha, hlt, heq⟩ := C13_opening_same_size false _ _ hup hupj hlen.symm
  have sj := seatEntry_of_table henv false s j a ha
  have si := seatEntry_of_table henv false s i b hb
  obtain ⟨_, e, hse, hmax, hfirst⟩ := C13_high_hand s st hst hop i h ⟨i, hi, by rw [si]; simp⟩
  rw [si] at hse; cases hse
  have hle := hmax j hj a sj
  simp only [openValue, Bool.false_eq_true, if_false] at hlt heq
  refine ⟨Bool.eq_false_iff.2 fun hl => ?_, fun hji hne => hfirst j hji (by rw [sj, heq.2 hne.symm])⟩
  have := hlt.2 hl
  omega

end PK
