/-
  C14 — multiple run-outs and multiple boards are offered and dealt as documented.

  Proved here, for every configuration, every state and every history (operations with arbitrary
  arguments, every automation subset, crashes included):
  * `C14_inv_step`, `C14_reachable`   the run-out invariant holds at every reachable point:
        - tournament mode: no choice is ever pending, no count is ever recorded, dealing never
          returns for a second run (hence `C14_tournament_once`: the board count stays the
          starting board count);
        - a recorded count is at least 1;
        - dealing returns to an earlier street only when a count was recorded;
        - once the first showdown has been closed (the run-out flag), no choice is pending — and
          therefore none can be made any more (`C14_no_selection_after_close`).
    (A frame lemma, `rv_frame`, shows that only `_begin_showdown`, `select_runout_count`,
    `_end_showdown` and `show_or_muck_hole_cards` — which at most takes one pending choice down (`rv_opShow`), and
    only by a muck, the mucking player's (`rv_show`, PK/Proofs/Frames.lean) — ever write the run-out fields.)
  * `C14_offered`       what `_begin_showdown` offers: exactly the players in the hand get a choice,
                        and only in cash-game mode, at the first showdown, with a later street that
                        deals board cards (`C14_offered_only_all_in`: such a showdown is entered only
                        when everybody is all-in).
  * `C14_select_iff`    a choice is accepted iff that player's choice is pending and the count, if
                        given, is ≥ 1 — for an explicit player in any order; `C14_select_once`: it
                        clears exactly his flag, so each player chooses once.
  * `C14_consensus`     the count recorded after any sequence of choices: nothing when nobody
                        expressed a preference, `r` when all expressed preferences equal `r`, 1 as
                        soon as two differ.
  * `C14_board_count`, `C14_shared_prefix`, `C14_own_suffix`   with `b` starting boards and `r`
                        run-outs there are `b·r` boards; board `j` reads column `j / r` of the rows
                        dealt before the all-in (the `r` run-outs of a starting board share them)
                        and its own column `j` of the rows dealt afterwards.
  * `C14_even_split`    a pot's amount is divided by `divmod` over the boards: every board gets the
                        quotient, board 0 the odd chips, and the shares add up to the pot.
  Not proved: that at the end of the hand every one of the `b·r` boards is complete and no card
  appears twice (needs the dealing history; C06/C10 territory) — decided on every implementation
  trace by the C14 monitor (harness/runout.py).
-/
import PK.Proofs.Frames
import PK.Proofs.PushSum
import PK.Properties.C07
namespace PK
open State M

variable {cfg : Config} {env : Env}

/-- the player a choice refers to: the explicit one, else the first whose choice is pending -/
def selectTarget (s : State) (i : Option Nat) : Nat :=
  match i with
  | some q => q
  | none => (firstTrue s.runoutSelectors).getD 0

theorem C14_select_iff (s : State) (c : Option Int) (i : Option Nat) (p : Nat) :
    s.verifyRunoutCountSelection cfg c i = .ok p ↔
      (p = selectTarget s i ∧ p < cfg.n ∧ getB s.runoutSelectors p = true ∧ ∀ k, c = some k → 1 ≤ k) := by
  rw [verifyRunout_eq, verifyFlagged_ok, show i.getD ((firstTrue s.runoutSelectors).getD 0) = selectTarget s i by
    cases i <;> rfl, ite_error_eq_ok]
  constructor
  · rintro ⟨-, hlt, hsel, hbad, hq⟩
    cases hq
    exact ⟨rfl, hlt, hsel, fun k hk => by subst hk; simpa using hbad⟩
  · rintro ⟨rfl, hlt, hsel, hpos⟩
    refine ⟨getB_true_anyB hsel, hlt, hsel, ?_, rfl⟩
    cases c with
    | none => nofun
    | some k => simpa using hpos k rfl

theorem verifyRunout_none_pending {s : State} (h : anyB s.runoutSelectors = false) (c : Option Int) (i : Option Nat) :
    s.verifyRunoutCountSelection cfg c i = .error .valueError := by
  unfold State.verifyRunoutCountSelection
  rw [h]
  rfl

theorem consensusStep_some (r c : Int) : consensusStep (some r) (some c) = if r = c then some r else some 1 := by
  unfold consensusStep
  by_cases h : r = c <;> simp [h]

theorem consensusStep_ne_none {acc : Option Int} (pref : Option Int) (h : acc ≠ none) : consensusStep acc pref ≠ none := by
  unfold consensusStep
  repeat' split
  · exact h
  · exact absurd rfl h
  all_goals nofun

structure RunoutInv (cfg : Config) (r : RV) : Prop where
  tournament : cfg.tournament = true → anyB r.sel = false ∧ r.cnt = none ∧ r.ret = none
  positive : ∀ c, r.cnt = some c → 1 ≤ c
  retCount : r.ret ≠ none → r.cnt ≠ none
  closed : r.flag = true → anyB r.sel = false

theorem C14_inv_init : RunoutInv cfg (rv (setup cfg env)) :=
  ⟨fun _ => ⟨anyB_replicate_false _, rfl, rfl⟩, nofun, fun hn => absurd rfl hn, nofun⟩

/-- the condition under which `_begin_showdown` offers the choice -/
def offerCond (cfg : Config) (s : State) (si : Int) : Bool :=
  !s.runoutFlag && !cfg.tournament && (cfg.streets.drop (si + 1).toNat).any (·.board != 0)

theorem openShowdown_sel (s : State) (si : Int) :
    (s.openShowdown cfg si).runoutSelectors =
      if offerCond cfg s si then
        (playerIndices cfg).map fun i => if getB s.statuses i then true else getB s.runoutSelectors i
      else s.runoutSelectors := by
  unfold State.openShowdown offerCond
  generalize (!s.runoutFlag && !cfg.tournament) = cash
  cases cash
  · rfl
  · simp only [Bool.true_and, if_true]
    split <;> rfl

theorem runout_beginShow (m : M) (h : RunoutInv cfg (rv m.st)) (rest : List Ctl)
    (hctl : m.ctl = .beginShow :: rest) : RunoutInv cfg (rv (step cfg env m).st) := by
  rw [step_beginShow_eq hctl]
  split
  · exact h
  · split
    · exact h
    · rename_i si _
      have e : rv (m.st.openShowdown cfg si) = { rv m.st with sel := (m.st.openShowdown cfg si).runoutSelectors } := by
        rw [openShowdown_eq]; rfl
      rw [cont_st, e, openShowdown_sel]
      split
      · -- the choice is offered: a cash game at its first showdown
        rename_i hoff
        simp only [offerCond, Bool.and_eq_true, Bool.not_eq_true'] at hoff
        exact ⟨fun ht => absurd (hoff.1.2.symm.trans ht) Bool.false_ne_true, h.positive, h.retCount,
          fun hf => absurd (hoff.1.1.symm.trans hf) Bool.false_ne_true⟩
      · exact h

theorem runout_opRunout (m : M) (h : RunoutInv cfg (rv m.st)) (count : Option Int) (i : Option Nat)
    (rest : List Ctl) (hctl : m.ctl = .opRunout count i :: rest) :
    RunoutInv cfg (rv (step cfg env m).st) := by
  rw [step_opRunout_eq hctl]
  cases hp : m.st.verifyRunoutCountSelection cfg count i with
  | error e => exact h
  | ok p =>
    -- a choice was pending, so this is a cash game at its first showdown
    obtain ⟨_, _, hsel, hpos⟩ := (C14_select_iff _ _ _ _).1 hp
    have hpend := getB_true_anyB hsel
    exact ⟨fun ht => absurd ((h.tournament ht).1.symm.trans hpend) Bool.false_ne_true, consensusStep_pos h.positive hpos,
      fun hr => consensusStep_ne_none count (h.retCount hr),
      fun hf => absurd ((h.closed hf).symm.trans hpend) Bool.false_ne_true⟩

theorem runout_endShow (m : M) (h : RunoutInv cfg (rv m.st)) (rest : List Ctl)
    (hctl : m.ctl = .endShow :: rest) : RunoutInv cfg (rv (step cfg env m).st) := by
  rw [step_endShow_eq hctl]
  split
  · exact h
  · rename_i hguard
    have hsel : anyB m.st.runoutSelectors = false := by
      simp only [Bool.or_eq_true, not_or, Bool.not_eq_true] at hguard
      exact hguard.1
    split
    · exact h
    · -- whichever phase comes next, the state is the one with the first showdown closed
      rw [apply_ite M.st, cont_st, cont_st, ite_self]
      simp only [State.closeShowdown]
      split
      · split
        · rename_i rc hrc
          have hrc : m.st.runoutCount = some rc := hrc
          exact ⟨fun ht => absurd ((h.tournament ht).2.1.symm.trans hrc) nofun, h.positive,
            fun _ => hrc ▸ Option.some_ne_none rc, fun _ => hsel⟩
        · exact ⟨h.tournament, h.positive, h.retCount, fun _ => hsel⟩
      · exact h

theorem runout_opShow (m : M) (h : RunoutInv cfg (rv m.st)) (a : ShowArg) (i : Option Nat)
    (rest : List Ctl) (hctl : m.ctl = .opShow a i :: rest) :
    RunoutInv cfg (rv (step cfg env m).st) := by
  rcases rv_opShow (cfg := cfg) (env := env) m a i rest hctl with he | ⟨p, he⟩
  · rw [he]; exact h
  · rw [he]
    exact ⟨fun ht => ⟨anyB_set_false p (h.tournament ht).1, (h.tournament ht).2⟩, h.positive, h.retCount,
      fun hf => anyB_set_false p (h.closed hf)⟩

theorem C14_inv_step (m : M) (h : RunoutInv cfg (rv m.st)) : RunoutInv cfg (rv (step cfg env m).st) := by
  refine step_writers (Q := fun s => RunoutInv cfg (rv s)) (rv_frame m) (fun e => e ▸ h) fun f rest hctl hf => ?_
  cases f <;> cases hf
  case opRunout c i => exact runout_opRunout m h c i rest hctl
  case opShow a i => exact runout_opShow m h a i rest hctl
  case beginShow => exact runout_beginShow m h rest hctl
  case endShow => exact runout_endShow m h rest hctl

theorem C14_reachable {m : M} (h : Reach cfg env m) : RunoutInv cfg (rv m.st) :=
  h.st_inv (P := fun s => RunoutInv cfg (rv s)) C14_inv_init C14_inv_step

/-- `streetReturnIndex` is set when `_end_showdown` closes the first showdown with a count recorded: dealing then
    returns for the run-outs -/
theorem C14_board_count (s : State) :
    s.boardCount cfg = (match s.streetReturnIndex with
      | some _ => cfg.startingBoardCount * s.runoutCount.getD 1
      | none => cfg.startingBoardCount) := rfl

theorem C14_tournament_once {m : M} (h : Reach cfg env m) (ht : cfg.tournament = true) :
    m.st.boardCount cfg = cfg.startingBoardCount ∧ m.st.runoutCount = none ∧
      ∀ c i, ∃ e, m.st.verifyRunoutCountSelection cfg c i = .error e := by
  obtain ⟨hsel, hcnt, hret⟩ := (C14_reachable h).tournament ht
  have hret : m.st.streetReturnIndex = none := hret
  exact ⟨by unfold State.boardCount; rw [hret], hcnt, fun c i => ⟨_, verifyRunout_none_pending hsel c i⟩⟩

theorem C14_no_selection_after_close {m : M} (h : Reach cfg env m) (hf : m.st.runoutFlag = true)
    (c : Option Int) (i : Option Nat) : ∃ e, m.st.verifyRunoutCountSelection cfg c i = .error e :=
  ⟨_, verifyRunout_none_pending ((C14_reachable h).closed hf) c i⟩

theorem C14_count_positive {m : M} (h : Reach cfg env m) (c : Int) (hc : m.st.runoutCount = some c) :
    1 ≤ c := (C14_reachable h).positive c hc

theorem C14_offered (m : M) (rest : List Ctl) (hctl : m.ctl = .beginShow :: rest) (si : Int)
    (hsi : m.st.streetIndex = some si)
    (hclean : anyB m.st.runoutSelectors = false ∧ m.st.showdown = []) :
    (step cfg env m).st.runoutSelectors =
      if offerCond cfg m.st si then
        (playerIndices cfg).map fun i => if getB m.st.statuses i then true else getB m.st.runoutSelectors i
      else m.st.runoutSelectors := by
  rw [step_beginShow_eq hctl, if_neg (by simp [hclean.1, hclean.2]), hsi]
  exact openShowdown_sel m.st si

theorem C14_offer_not_last (s : State) (si : Int) (hsi : s.streetIndex = some si) (h0 : 0 ≤ si)
    (h : offerCond cfg s si = true) : s.streetIsLast cfg = false := by
  unfold offerCond at h
  simp only [Bool.and_eq_true, List.any_eq_true] at h
  obtain ⟨_, st, hst, _⟩ := h
  have hlen : (si + 1).toNat < cfg.streets.length := by
    have := List.length_pos_of_mem hst
    simp only [List.length_drop] at this
    omega
  unfold State.streetIsLast
  rw [hsi]
  simp only [beq_eq_false_iff_ne, ne_eq, Option.some.injEq]
  omega

/-- the only frame that starts a showdown is `_end_bet_collection`, and it does so only on the last street or when
    the all-in flag is set -/
theorem C14_offered_only_all_in (m : M) (rest : List Ctl) (hctl : m.ctl = .endCollect :: rest)
    (hshow : (step cfg env m).ctl = .beginShow :: rest) :
    (step cfg env m).st.streetIsLast cfg = true ∨ (step cfg env m).st.allIn = true := by
  revert hshow
  rw [step_endCollect_eq hctl]
  -- the branch that pushes `_begin_showdown` is guarded by the condition; every other one leaves another stack
  (repeat' split) <;> intro hshow <;> first | exact Bool.or_eq_true_iff.1 ‹_› | cases hshow

theorem C14_select_once (m : M) (count : Option Int) (i : Option Nat) (rest : List Ctl) (p : Nat)
    (hctl : m.ctl = .opRunout count i :: rest)
    (hp : m.st.verifyRunoutCountSelection cfg count i = .ok p) :
    (step cfg env m).st.runoutSelectors = m.st.runoutSelectors.set p false ∧
      ∀ c, ∃ e, (step cfg env m).st.verifyRunoutCountSelection cfg c (some p) = .error e := by
  rw [step_opRunout_eq hctl, hp]
  refine ⟨rfl, fun c => ?_⟩
  cases hv : State.verifyRunoutCountSelection cfg _ c (some p) with
  | error e => exact ⟨e, rfl⟩
  | ok q =>
    obtain ⟨rfl, _, hsel, _⟩ := (C14_select_iff _ c (some p) q).1 hv
    exact absurd ((getB_set_false_self _ _).symm.trans hsel) Bool.false_ne_true

theorem consensus_after_one (l : List (Option Int)) : l.foldl consensusStep (some 1) = some 1 :=
  foldl_fixed (Option.rec rfl fun c => by rw [consensusStep_some, ite_self]) l

theorem C14_consensus (prefs : List (Option Int)) :
    prefs.foldl consensusStep none =
      (match prefs.filterMap id with
       | [] => none
       | r :: rest => if rest.all (· == r) then some r else some 1) := by
  -- once a count `r` is recorded it stays as long as the preferences agree with it, and falls to 1 for good
  have key (l : List (Option Int)) (r : Int) :
      l.foldl consensusStep (some r) = if (l.filterMap id).all (· == r) then some r else some 1 := by
    induction l with
    | nil => rfl
    | cons p l ih =>
      cases p with
      | none => exact ih
      | some c =>
        by_cases hrc : r = c
        · subst hrc
          simpa [consensusStep_some] using ih
        · simp [consensusStep_some, hrc, Ne.symm hrc, consensus_after_one]
  induction prefs with
  | nil => rfl
  | cons p l ih =>
    cases p with
    | none => exact ih
    | some c => exact key l c

theorem C14_select_updates (m : M) (count : Option Int) (i : Option Nat) (rest : List Ctl) (p : Nat)
    (hctl : m.ctl = .opRunout count i :: rest)
    (hp : m.st.verifyRunoutCountSelection cfg count i = .ok p) :
    (step cfg env m).st.runoutCount = consensusStep m.st.runoutCount count := by
  rw [step_opRunout_eq hctl, hp]
  rfl

/-- the column of row `i` that board `b` reads (`get_board_cards`): rows dealt before the all-in
    (`i < mid`) are shared by the run-outs of one starting board -/
def boardColumn (rc : Int) (mid : Int) (b : Nat) (i : Nat) : Int :=
  if (i : Int) < mid then Int.fdiv (b : Int) rc else (b : Int)

theorem C14_board_cards (s : State) (b : Nat) (ri : Int) (h : s.streetReturnIndex = some ri) :
    s.getBoardCards cfg b =
      (s.board.zipIdx).filterMap fun (cards, i) =>
        let col := boardColumn (s.runoutCount.getD 1)
          (sumI ((cfg.streets.take ri.toNat).map (·.board))) b i
        if col < cards.length then cards[col.toNat]? else none := by
  unfold State.getBoardCards boardColumn
  rw [h]

theorem C14_shared_prefix (rc mid : Int) (b1 b2 i : Nat) (hi : (i : Int) < mid)
    (hsame : Int.fdiv (b1 : Int) rc = Int.fdiv (b2 : Int) rc) :
    boardColumn rc mid b1 i = boardColumn rc mid b2 i := by
  unfold boardColumn
  rw [if_pos hi, if_pos hi, hsame]

/-- the `r` run-outs `k·r … k·r + r − 1` of starting board `k` all read column `k` of the rows dealt before the
    all-in -/
theorem C14_runouts_of_board (rc mid : Int) (k j i : Nat) (hrc : 0 < rc) (hj : (j : Int) < rc)
    (hi : (i : Int) < mid) :
    boardColumn rc mid (k * rc.toNat + j) i = k := by
  unfold boardColumn
  rw [if_pos hi]
  have h1 : ((k * rc.toNat + j : Nat) : Int) = (k : Int) * rc + j := by
    have : (rc.toNat : Int) = rc := Int.toNat_of_nonneg (by omega)
    push_cast; rw [this]
  rw [h1, Int.fdiv_eq_ediv_of_nonneg _ (by omega)]
  rw [Int.add_comm, Int.add_mul_ediv_right _ _ (by omega), Int.ediv_eq_zero_of_lt (by omega) hj]
  omega

theorem C14_own_suffix (rc mid : Int) (b i : Nat) (hi : ¬ (i : Int) < mid) :
    boardColumn rc mid b i = b :=
  if_neg hi

/-- `subPotsOfPot` (`_begin_chips_pushing`) uses exactly `if j == 0 then q + r else q` for board `j` -/
theorem C14_even_split (a q r : Int) (k : Nat) (hk : 0 < k)
    (h : State.divmod cfg a (k : Int) = .ok (q, r)) :
    sumI ((List.range k).map fun j => if j == 0 then q + r else q) = a :=
  (sum_board_shares q r k hk).trans (divmod_spec h).1

end PK
