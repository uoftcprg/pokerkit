/-
  C14 ∘ C06 — **no card is dealt to two boards, or to a board and a hand**: at every point of a history
  without dealability warnings and unknown cards (`CardReach`, see `PK.Properties.C06Step`) the community
  cards of all boards and run-outs and the hole cards of all players are distinct cards.
-/
import PK.Properties.C06Step
namespace PK

variable {cfg : Config} {env : Env}

-- `CardInv.nodup` speaks of `rest s ++ (s.board.flatten ++ s.hole.flatten)`: both theorems take this list apart

theorem C14_no_card_twice (hd : DeckOk cfg) (hshuf : ∀ l, (env.shuffle l).Perm l) {m : M}
    (h : CardReach cfg env m) : m.st.board.flatten.Nodup :=
  ((C06_reachable hd hshuf h).nodup hd).of_append_right.of_append_left

theorem C14_hands_and_boards_disjoint (hd : DeckOk cfg) (hshuf : ∀ l, (env.shuffle l).Perm l) {m : M}
    (h : CardReach cfg env m) :
    m.st.hole.flatten.Nodup ∧ ∀ c ∈ m.st.board.flatten, c ∉ m.st.hole.flatten := by
  obtain ⟨_, h2, h3⟩ := List.nodup_append.1 ((C06_reachable hd hshuf h).nodup hd).of_append_right
  exact ⟨h2, fun c hc hh => h3 c hc c hh rfl⟩

end PK
