/-
  C15 — The operation log is a faithful record; states are deterministic and copyable.

  * `C15_append_only`   a micro-step never rewrites the log: it leaves it as it is or appends
                        exactly one record
  * `ops_frame`, `ops_upd`  the steps that append a record are the `_update_*` steps (which append the record
                        handed to them by a successful public operation, if any) and `no_operate`; no other
                        step writes the log (both from `ops_step`, PK/Proofs/Control.lean)
  * `C15_record_ante`   the record an accepted ante posting hands to its `_update_*` step carries what it did:
                        the player whose stack changed and the amount taken from it, his effective ante (the
                        contents of the other records are compared by correspondence)
  * `C15_deterministic` the engine is a function of (configuration, shuffle, operation sequence): in the model this
                        is no more than `run` being a function (the statement is a congruence and holds of any)
  "Replaying the log on a fresh un-automated state reproduces log and state" is C15Replay.lean and C15Auto.lean;
  the deep-copy clause cannot be expressed by an immutable model at all.  Both are checked on every trace by the
  C15 monitor (log replay with logged players, amounts and cards; second run; deep copy taken mid-hand, driven
  on, compared).
-/
import PK.Proofs.Control
namespace PK
open State M

variable {cfg : Config} {env : Env}

def Ctl.writesLog : Ctl → Bool
  | .updAnte _ | .updCollect _ | .updBlind _ | .updDeal _ | .updBet _ _ | .updShow _ | .updKill _
  | .updPush _ | .updPull _ | .opNoOp => true
  | _ => false

theorem logs_none {f : Ctl} (h : f.writesLog = false) : f.logs = none := by
  cases f <;> first | rfl | cases h

theorem ops_frame (m : M) (hf : ∀ f rest, m.ctl = f :: rest → f.writesLog = false) :
    (step cfg env m).st.ops = m.st.ops := by
  cases hctl : m.ctl with
  | nil => rw [step_nil hctl]
  | cons f rest => rw [ops_step hctl, logs_none (hf f rest hctl)]; rfl

theorem ops_upd (m : M) (f : Ctl) (rest : List Ctl) (hctl : m.ctl = f :: rest) (hu : f.isUpd = true) :
    (step cfg env m).st.ops = f.record?.toList ++ m.st.ops := by
  rw [ops_step hctl]
  cases f <;> first | rfl | cases hu

theorem C15_append_only (m : M) :
    (step cfg env m).st.ops = m.st.ops ∨ ∃ o, (step cfg env m).st.ops = o :: m.st.ops := by
  cases hctl : m.ctl with
  | nil => rw [step_nil hctl]; exact Or.inl rfl
  | cons f rest =>
    rw [ops_step hctl]
    cases f.logs with
    | none => exact Or.inl rfl
    | some o => exact Or.inr ⟨o, rfl⟩

/-- over whole runs — any operation with any arguments, the whole automation cascade, crashes included -/
theorem C15_run_suffix (k : Nat) (m : M) : m.st.ops <:+ (run cfg env k m).st.ops := by
  induction k generalizing m with
  | zero => exact List.suffix_refl _
  | succ k ih =>
    unfold run
    split
    · exact List.suffix_refl _
    · refine List.IsSuffix.trans ?_ (ih _)
      rcases C15_append_only (cfg := cfg) (env := env) m with h | ⟨o, h⟩
      · rw [h]; exact List.suffix_refl _
      · rw [h]; exact List.suffix_cons _ _

theorem C15_apply_suffix (s : State) (op : Ctl) : s.ops <:+ (M.apply cfg env s op).st.ops :=
  C15_run_suffix (cfg := cfg) (env := env) defaultFuel { st := s, ctl := [op] }

theorem C15_deterministic (cfg : Config) (env : Env) (k : Nat) (m m' : M) (h : m = m') :
    run cfg env k m = run cfg env k m' := by rw [h]

theorem C15_record_ante (m : M) (i : Option Nat) (rest : List Ctl) (hctl : m.ctl = .opPostAnte i :: rest)
    (herr : (step cfg env m).err = none) :
    ∃ p a, (step cfg env m).ctl = .updAnte (some (.antePosting p a)) :: rest ∧
      getI (step cfg env m).st.stacks p = (if p < m.st.stacks.length then getI m.st.stacks p - a else 0) ∧
      a = effectiveAnte cfg p := by
  revert herr
  step_at hctl
  split
  · intro herr; cases herr
  · rename_i p hp
    (repeat' split) <;> intro herr <;> first | (cases herr; done) | skip
    refine ⟨p, effectiveAnte cfg p, rfl, ?_, rfl⟩
    by_cases hl : p < m.st.stacks.length <;> simp [M.cont, getI, hl]

end PK
