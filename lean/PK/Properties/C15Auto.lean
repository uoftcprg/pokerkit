/-
  C15, replay of automated hands — `C15_replay_auto`: for every history with any automation subset `A` in which no
  exception escapes from inside a cascade and mucks are by players who hold cards, and every quiescent point of
  it, driving a fresh **un-automated** machine with the logged records reproduces the state, log included.

  `logGuard_mirrored`: the twin simulation of C09Twin.lean carries the guard of `LogReach` over — an inert
  continuation step raises nothing and is no show; `CleanStep` and `MuckHolds` speak of the running frame, the
  state before and after and the error register after, which a mirrored step shares.  So the twin of a clean
  history is clean (`twin_log`, from `twin_sim`); `C15_replay_auto` takes the twin at a quiescent point, which
  `twin_quiescent` makes quiescent with the same state, and applies `C15_replay` to it.
-/
import PK.Properties.C15Replay
namespace PK

variable {cfg : Config} {env : Env}

theorem muckHolds_autos (A B : List Automation) (s : State) (f : Ctl)
    (h : MuckHolds { cfg with autos := A } env s f) : MuckHolds { cfg with autos := B } env s f := by
  intro a i v hf hv hs
  rw [verifyShow_autos] at hv
  exact h a i v hf (by rw [verifyShow_autos]; exact hv) hs

theorem muckHolds_inert {s : State} {f : Ctl} (h : f.inertK = true) : MuckHolds cfg env s f := by
  apply muckHolds_of_not_show
  cases f <;> first | rfl | cases h

theorem logGuard_mirrored (A : List Automation) :
    Mirrored cfg env A (LogGuard { cfg with autos := A } env) (LogGuard { cfg with autos := [] } env) where
  inert := by
    intro m f rest hc hin he
    refine ⟨Or.inl he, fun f' r' hc' => ?_⟩
    rw [hc] at hc'; cases hc'
    exact muckHolds_inert hin
  mirror := by
    intro ma mm f rest rest' ha hm hst hst' herr ⟨hclean, hmuck⟩
    constructor
    · rcases hclean with hn | ⟨f', r', hc', hop', hsame⟩
      · exact Or.inl (herr.symm.trans hn)
      · rw [ha] at hc'; cases hc'
        exact Or.inr ⟨f, rest', hm, hop', hst'.symm.trans (hsame.trans hst)⟩
    · intro f' r' hc'
      rw [hm] at hc'; cases hc'
      rw [← hst]
      exact muckHolds_autos A [] ma.st f (hmuck f rest ha)

theorem twin_log (A : List Automation) {ma : M} (h : LogReach { cfg with autos := A } env ma) :
    ∃ mm, LogReach { cfg with autos := [] } env mm ∧ Twin ma mm := by
  obtain ⟨mm, hmm, ht⟩ := twin_sim (logGuard_mirrored A) (logReach_iff.1 h)
  exact ⟨mm, logReach_iff.2 hmm, ht⟩

theorem C15_replay_auto (A : List Automation) {ma : M} (h : LogReach { cfg with autos := A } env ma)
    (hq : ma.ctl = []) :
    ∃ mr, ReplayReach { cfg with autos := [] } env ma.st.ops.reverse mr ∧ mr.st = ma.st ∧ mr.ctl = [] := by
  obtain ⟨mm, hmm, hst, hctl⟩ := twin_quiescent (logGuard_mirrored A) (logReach_iff.1 h) hq
  obtain ⟨mr, a, b, c⟩ := C15_replay (cfg := { cfg with autos := [] }) (env := env) rfl (logReach_iff.2 hmm) hctl
  rw [hst] at a b
  exact ⟨mr, a, b, c⟩

end PK
