/-
  C15, replay — **replaying the operation log on a fresh un-automated state reproduces the hand**.

  `C15_replay`: at every quiescent point of an un-automated history (any operations with any arguments, refused
  ones included), driving a fresh machine with the logged records, each replayed as the public operation with the
  logged player, amount and cards (`replayOp`), ends in the very same state — cards, chips, flags and the log
  itself.  Side conditions of `LogReach`: (f) no exception escapes from inside a cascade (`CleanStep`), and a
  muck is by a player who holds cards (a record of a show carries the tabled cards only, so a muck by a player
  without cards cannot be told from the show of an empty hand — the ambiguity behind finding F17).

  How:
  * `Resolved`       an accepted operation and its resolved form;
  * `Resolved.step`  the two do the same: the verifiers accept their own answers with the same verdict
                     (`verify*_idem`), cards the engine chose are accepted when named (`verifyCards_replay`: a prefix
                     of the dealable cards is covered by them), a show plan is found again from the cards it tabled
                     (`verifyShow_replay`), and the rest of an operation depends on its arguments only through the
                     verifier's answer;
  * `record_resolved`  the records carry the arguments: the record of an accepted operation is replayed as its
                     resolved form.  Together `logged_form`: an accepted operation is accepted again, with the
                     same new state and the same record, when it is issued in its logged form — 17 operations;
  * `op_outcomes`    a public operation is accepted (one record), refused (state unchanged), crashes, or is
                     `no_operate`;
  * `ops_step`       (PK/Proofs/Control.lean) only the `_update_*` methods and `no_operate` write the log, and they
                     append exactly the record they carry;
  * `pushes_plain`, `pushes_inert`, `sim_step`   between operations the two machines run the same frames: methods
                     and inert continuations, none of which carries a record.
  For automated hands see C15Auto.lean.
-/
import PK.Properties.C09Twin
import PK.Properties.C06Step
import PK.Properties.C07Live
namespace PK
open State M

variable {cfg : Config} {env : Env}

/-- the public operation a logged record is replayed as; a record of a show without cards is a muck unless the
    player holds no cards at all -/
def replayOp (s : State) : Operation → Ctl
  | .antePosting p _ => .opPostAnte (some p)
  | .betCollection _ => .opCollect
  | .blindOrStraddlePosting p _ => .opPostBlind (some p)
  | .cardBurning c => .opBurn (.cards [c])
  | .holeDealing p cards _ => .opDealHole (.cards cards) (some p)
  | .boardDealing cards => .opDealBoard (.cards cards)
  | .standingPatOrDiscarding _ cards => .opDraw cards
  | .folding _ => .opFold
  | .checkingOrCalling _ _ => .opCall
  | .bringInPosting _ _ => .opBringIn
  | .completionBettingOrRaisingTo _ a => .opCbr (some a)
  | .runoutCountSelection p c => .opRunout c (some p)
  | .holeCardsShowingOrMucking p cards =>
    if cards.isEmpty && !(s.holeOf p).isEmpty then .opShow (.status false) (some p)
    else .opShow (.cards cards) (some p)
  | .handKilling p => .opKill (some p)
  | .chipsPushing _ _ _ _ => .opPush
  | .chipsPulling p _ => .opPull (some p)
  | .noOperation => .opNoOp

macro "idem_tac" h:ident : tactic => `(tactic| (
  repeat' split at $h:ident
  all_goals first
    | (cases $h:ident; done)
    | (cases $h:ident; simp_all <;> (repeat' split) <;> first | rfl | omega)))

theorem verifyCbr_idem {s : State} {a : Option Int} {b : Int} (h : s.verifyCbr cfg a = .ok b) :
    s.verifyCbr cfg (some b) = .ok b := by
  obtain ⟨p, mn, mx, hp, hmn, hmx, h1, h2⟩ := verifyCbr_bounds h
  simp only [State.verifyCbr, hp, hmn, hmx, Option.getD_some, if_neg (Int.not_lt.2 h1), gt_iff_lt, if_neg (Int.not_lt.2 h2)]

theorem dealable_replay (s : State) (k : Int)
    (hlen : ¬ ((s.dealableCards env (some k)).length : Int) < k) :
    s.dealableCards env (some ((pyTake (s.dealableCards env (some k)) k).length : Int)) =
      s.dealableCards env (some k) := by
  unfold State.dealableCards at hlen ⊢
  by_cases hm : k > (s.deck.length : Int)
  · simp only [hm, decide_true, if_true] at hlen ⊢
    have hk0 : 0 ≤ k := by omega
    have : ((pyTake (s.deck ++ env.shuffle s.reservedCards) k).length : Int) = k := by
      unfold pyTake
      simp only [hk0, if_true, List.length_take]
      omega
    rw [this]
    simp [hm]
  · simp only [hm, decide_false, Bool.false_eq_true, if_false] at hlen ⊢
    have : ¬ ((pyTake s.deck k).length : Int) > s.deck.length :=
      Int.not_lt.2 (Int.ofNat_le.2 (pyTake_sublist s.deck k).length_le)
    simp [this]

theorem verifyCards_replay {s : State} {arg : CardsArg} {v : Verdict (List Card)}
    (h : s.verifyCardsConsumption cfg env arg = .ok v) :
    s.verifyCardsConsumption cfg env (.cards v.val) = .ok v := by
  cases arg with
  | none => unfold State.verifyCardsConsumption at h; cases h
  | cards cs => rw [verify_cards_val h]; exact h
  | count k =>
    unfold State.verifyCardsConsumption at h
    simp only [] at h
    split at h
    · cases h
    · rename_i hlen
      cases h
      unfold State.verifyCardsConsumption
      simp only []
      rw [dealable_replay s k hlen]
      have := coverKnown_subperm _ _ (pyTake_sublist (s.dealableCards env (some k)) k).subperm
      cases hc : coverKnown (s.dealableCards env (some k)) (pyTake (s.dealableCards env (some k)) k) with
      | none => rw [hc] at this; cases this
      | some x => simp

theorem verifyBurn_replay {s : State} {arg : CardsArg} {v : Verdict Card}
    (h : s.verifyCardBurning cfg env arg = .ok v) :
    s.verifyCardBurning cfg env (.cards [v.val]) = .ok v := by
  obtain ⟨hv0, hb, hp⟩ := verifyCardBurning_spec h
  simp only [State.verifyCardBurning, verifyCards_replay hv0, hb, hp]
  rfl

theorem verifyDealHole_replay {s : State} {arg : CardsArg} {i : Option Nat} {v : Verdict (List Card × Nat)}
    (h : s.verifyHoleDealing cfg env arg i = .ok v) :
    s.verifyHoleDealing cfg env (.cards v.val.1) (some v.val.2) = .ok v := by
  obtain ⟨h0, hv0, hn, h1, h2⟩ := verifyHoleDealing_spec h
  have hq : (s.holeDealing.getD v.val.2 []).isEmpty = false := by
    cases hq : s.holeDealing.getD v.val.2 [] with
    | nil => rw [hq] at h2; exact absurd (Nat.le_trans h1 h2) (by decide)
    | cons _ _ => rfl
  simp only [State.verifyHoleDealing, h0, verifyCards_replay hv0, hq, if_neg (Nat.not_le.2 hn), h1, h2]
  rfl

theorem verifyDealBoard_replay {s : State} {arg : CardsArg} {v : Verdict (List Card)}
    (h : s.verifyBoardDealing cfg env arg = .ok v) :
    s.verifyBoardDealing cfg env (.cards v.val) = .ok v := by
  obtain ⟨h0, bdc, hb, hv, h1, h2⟩ := verifyBoardDealing_spec h
  simp only [State.verifyBoardDealing, h0, hb, verifyCards_replay hv, h1, h2]
  rfl

theorem padCards_idem (own cs : List Card) (h : ¬ cs.length > own.length) :
    padCards own (padCards own cs) = padCards own cs ∧ (padCards own cs).length = own.length := by
  have hl : (padCards own cs).length = own.length := by
    unfold padCards; simp only [List.length_append, List.length_replicate]; omega
  refine ⟨?_, hl⟩
  show padCards own cs ++ List.replicate (own.length - (padCards own cs).length) Card.unknownCard = _
  rw [hl, Nat.sub_self]; simp

theorem plan_own (s : State) (own : List Card) (hk : ∀ c ∈ own, c.known = true) :
    padCards own own = own ∧ planHc cfg s own own = own ∧ planHs own own = List.replicate own.length true := by
  have hf : own.filter Card.known = own := List.filter_eq_self.2 hk
  refine ⟨?_, ?_, ?_⟩
  · unfold padCards; simp
  · unfold planHc
    simp only [hf, Nat.sub_self, List.take_zero, List.append_nil]
    split <;> simp
  · unfold planHs
    simp [hf]

def replayShowArg (s : State) (p : Nat) (cards : List Card) : ShowArg :=
  if cards.isEmpty && !(s.holeOf p).isEmpty then .status false else .cards cards

/-- as many cards tabled as held (none means none held): this is not the record of a muck -/
theorem replayShowArg_cards {s : State} {p : Nat} {cards : List Card} (h : cards.length = (s.holeOf p).length) :
    replayShowArg s p cards = .cards cards := by
  unfold replayShowArg
  rw [if_neg]
  simp [List.isEmpty_iff, ← List.length_eq_zero_iff, h]

theorem replayShowArg_nil {s : State} {p : Nat} (h : s.holeOf p ≠ []) : replayShowArg s p [] = .status false := by
  unfold replayShowArg
  rw [if_pos]
  simpa using h

theorem showPlayer_idem {s : State} {i : Option Nat} {p : Nat} (h : s.showPlayer cfg i = .ok p) :
    s.showPlayer cfg (some p) = .ok p := by
  unfold State.showPlayer at h ⊢
  simp only [] at h ⊢
  split at h
  · cases h
  · obtain rfl := Except.ok.inj (of_guard (of_guard (of_guard h)))
    rw [if_neg (not_of_guard h), if_neg (not_of_guard (of_guard h)), if_neg (not_of_guard (of_guard (of_guard h)))]

theorem showFinal_known {s : State} {p : Nat} {own : List Card} {w : Bool} {v : Verdict ShowPlan}
    (h : s.showFinal cfg p true (own, own, List.replicate own.length true) w = .ok v) :
    ∀ c ∈ own, c.known = true := by
  unfold State.showFinal at h
  simp only [] at h
  split at h
  · cases h
  · split at h
    · cases h
    · rename_i hany
      intro c hc
      simp only [Bool.not_eq_true, List.any_eq_false] at hany
      obtain ⟨k, hk, rfl⟩ := List.getElem_of_mem hc
      have := hany (own[k], true) (by
        rw [List.mem_iff_getElem]
        refine ⟨k, by simp [hk], by simp⟩)
      simpa using this

theorem verifyCards_nil (s : State) : s.verifyCardsConsumption cfg env (.cards []) = .ok ⟨[], false⟩ := by
  unfold State.verifyCardsConsumption
  simp [coverKnown]

theorem verifyShow_replay {s : State} {arg : ShowArg} {i : Option Nat} {v : Verdict ShowPlan}
    (h : s.verifyShow cfg env arg i = .ok v)
    (hmuck : v.val.status = false → s.holeOf v.val.player ≠ []) :
    s.verifyShow cfg env (replayShowArg s v.val.player v.val.cards) (some v.val.player) = .ok v := by
  unfold State.verifyShow at h
  split at h
  · cases h
  · rename_i h0
    split at h
    · cases h
    · rename_i p hp
      have hp' := showPlayer_idem hp
      split at h
      · cases h
      · rename_i v1 hv1
        obtain ⟨f1, _⟩ := showFinal_spec h
        have hpl : v.val.player = p := by rw [f1]
        have hcards : v.val.cards = (showTriple (s.holeOf p) v1.val.1 v1.val.2).1 := by rw [f1]
        have hstat : v.val.status = v1.val.1 := by rw [f1]
        rw [hpl, hcards]
        -- it is enough to find the same plan again
        suffices hsuff : ∃ v1', s.showExplicit cfg env
            (replayShowArg s p (showTriple (s.holeOf p) v1.val.1 v1.val.2).1) p = .ok v1' ∧
            v1'.val.1 = v1.val.1 ∧
            showTriple (s.holeOf p) v1'.val.1 v1'.val.2 = showTriple (s.holeOf p) v1.val.1 v1.val.2 ∧
            v1'.warned = v1.warned by
          obtain ⟨v1', e1, e2, e3, e4⟩ := hsuff
          unfold State.verifyShow
          simp only [h0, hp', e1, e2, e4]
          rw [e2] at e3
          rw [e3]
          exact h
        have hform : (∃ cs, arg = .cards cs) ∨ ∃ b, v1 = ⟨(b, none), false⟩ := by
          cases arg with
          | cards cs => exact .inl ⟨cs, rfl⟩
          | status b => exact .inr (showExplicit_plain hv1 trivial)
          | none => exact .inr (showExplicit_plain hv1 trivial)
        rcases hform with ⟨cs, rfl⟩ | ⟨b, rfl⟩
        · rw [showExplicit_cards_eq] at hv1
          split at hv1
          · cases hv1
          · rename_i hlen
            split at hv1
            · cases hv1
            · rename_i v0 hv0
              cases hv1
              obtain ⟨hpad, hpadlen⟩ := padCards_idem (s.holeOf p) cs hlen
              simp only [showTriple]
              rw [replayShowArg_cards hpadlen, showExplicit_cards_eq, hpad]
              have : ¬ (padCards (s.holeOf p) cs).length > (s.holeOf p).length := by omega
              simp only [this, if_false, hv0]
              exact ⟨_, rfl, rfl, rfl, rfl⟩
        · cases b with
          | true =>
            have hk : ∀ c ∈ s.holeOf p, c.known = true := showFinal_known h
            obtain ⟨q1, q2, q3⟩ := plan_own (cfg := cfg) s (s.holeOf p) hk
            have hf : (s.holeOf p).filter Card.known = s.holeOf p := List.filter_eq_self.2 hk
            simp only [showTriple, if_true]
            rw [replayShowArg_cards rfl, showExplicit_cards_eq, q1, q2, q3, hf, foldl_erase_self, verifyCards_nil]
            simp only [Nat.lt_irrefl, gt_iff_lt, if_false]
            exact ⟨_, rfl, rfl, rfl, rfl⟩
          | false =>
            simp only [showTriple, Bool.false_eq_true, if_false]
            rw [replayShowArg_nil (hpl ▸ hmuck hstat)]
            exact ⟨⟨(false, none), false⟩, rfl, rfl, rfl, rfl⟩

/-- `Resolved cfg env s g f`: the verifier accepts the public operation `f` in state `s`, and `g` is `f` with the
    player, amount and cards the verifier resolved the arguments to as explicit arguments; or `g` is `f` itself (all
    there is to say of an operation without arguments) -/
inductive Resolved (cfg : Config) (env : Env) (s : State) : Ctl → Ctl → Prop
  | ante {i p} : s.verifyAntePosting cfg i = .ok p → Resolved cfg env s (.opPostAnte (some p)) (.opPostAnte i)
  | blind {i p} : s.verifyBlindPosting cfg i = .ok p → Resolved cfg env s (.opPostBlind (some p)) (.opPostBlind i)
  | burn {a v} : s.verifyCardBurning cfg env a = .ok v → Resolved cfg env s (.opBurn (.cards [v.val])) (.opBurn a)
  | hole {a i v} : s.verifyHoleDealing cfg env a i = .ok v →
      Resolved cfg env s (.opDealHole (.cards v.val.1) (some v.val.2)) (.opDealHole a i)
  | board {a v} : s.verifyBoardDealing cfg env a = .ok v →
      Resolved cfg env s (.opDealBoard (.cards v.val)) (.opDealBoard a)
  | draw {cs cs'} : s.verifyStandingPat cs = .ok cs' → Resolved cfg env s (.opDraw cs') (.opDraw cs)
  | cbr {a b} : s.verifyCbr cfg a = .ok b → Resolved cfg env s (.opCbr (some b)) (.opCbr a)
  | runout {c i p} : s.verifyRunoutCountSelection cfg c i = .ok p →
      Resolved cfg env s (.opRunout c (some p)) (.opRunout c i)
  | shown {a i v} : s.verifyShow cfg env a i = .ok v → (v.val.status = false → s.holeOf v.val.player ≠ []) →
      Resolved cfg env s (.opShow (replayShowArg s v.val.player v.val.cards) (some v.val.player)) (.opShow a i)
  | kill {i p} : s.verifyHandKilling cfg i = .ok p → Resolved cfg env s (.opKill (some p)) (.opKill i)
  | pull {i p} : s.verifyChipsPulling cfg i = .ok p → Resolved cfg env s (.opPull (some p)) (.opPull i)
  | same (f : Ctl) : Resolved cfg env s f f

theorem Resolved.step {s : State} {g f : Ctl} (h : Resolved cfg env s g f) (rest : List Ctl) (e : Option Err)
    (w : Bool) :
    step cfg env { st := s, ctl := g :: rest, err := e, warned := w } =
    step cfg env { st := s, ctl := f :: rest, err := e, warned := w } := by
  cases h
  -- `M.raise` and `M.cont` are unfolded because, folded, they mention the whole machine, running frame included
  case ante hv => simp only [M.step, M.raise, M.cont, hv, verifyAnte_idem hv]
  case blind hv => simp only [M.step, M.raise, M.cont, hv, verifyBlind_idem hv]
  case burn hv => simp only [M.step, M.raise, M.cont, hv, verifyBurn_replay hv]
  case hole hv => simp only [M.step, M.cont, hv, verifyDealHole_replay hv]
  case board hv => simp only [M.step, M.raise, M.cont, hv, verifyDealBoard_replay hv]
  case draw hv => rw [(verifyStandingPat_spec hv).1]
  case cbr hv => simp only [M.step, M.raise, M.cont, hv, verifyCbr_idem hv]
  case runout hv => simp only [M.step, M.cont, runoutPlumb, hv, verifyRunout_idem hv]
  case shown hv hm =>
    rw [step_opShow_eq rfl, step_opShow_eq rfl]
    simp only [M.cont, hv, verifyShow_replay hv hm]
  case kill hv => simp only [M.step, M.cont, hv, verifyKill_idem hv]
  case pull hv => simp only [M.step, M.cont, hv, verifyPull_idem hv]
  case same => rfl

theorem replayOp_show (s : State) (p : Nat) (cards : List Card) :
    replayOp s (.holeCardsShowingOrMucking p cards) = .opShow (replayShowArg s p cards) (some p) := by
  simp only [replayOp, replayShowArg]; split <;> rfl

/-- a muck is by a player who holds cards -/
def MuckHolds (cfg : Config) (env : Env) (s : State) (f : Ctl) : Prop :=
  ∀ a i v, f = .opShow a i → s.verifyShow cfg env a i = .ok v → v.val.status = false →
    s.holeOf v.val.player ≠ []

theorem record_resolved {s : State} {f : Ctl} {rest : List Ctl} {e : Option Err} {w : Bool} {X : Ctl} {r : Operation}
    (hctl : (step cfg env { st := s, ctl := f :: rest, err := e, warned := w }).ctl = X :: rest)
    (hr : X.record? = some r) (hm : MuckHolds cfg env s f) (hop : f.isOp = true) :
    Resolved cfg env s (replayOp s r) f := by
  revert hctl
  cases f <;> first | (cases hop; done) | skip
  case opNoOp => exact fun hctl => absurd (congrArg List.length hctl) (by simp [M.step, M.cont])
  case opShow a i =>
    rw [step_opShow_eq rfl]
    (repeat' split) <;> intro hctl <;> cases hctl
    cases hr
    rw [replayOp_show]
    exact .shown ‹_› (hm a i _ rfl ‹_›)
  case opPush =>
    simp only [M.step]
    (repeat' split) <;> intro hctl <;> cases hctl
    cases hr
    obtain ⟨_, _, _, _, _, rfl, _⟩ := pushChips_ok ‹_›
    exact .same _
  case' opCbr => rw [step_opCbr_eq rfl]
  case' opRunout => rw [step_opRunout_eq rfl]
  case' opDraw => rw [step_opDraw_eq rfl]
  case' opDealBoard => rw [step_opDealBoard_eq rfl]
  all_goals (
    try simp only [M.step]
    (repeat' split) <;> intro hctl <;> cases hctl
    all_goals (cases hr; constructor <;> assumption))

theorem logged_form (s : State) (f : Ctl) (rest : List Ctl) (e : Option Err) (w : Bool) (X : Ctl) (r : Operation)
    (hctl : (step cfg env { st := s, ctl := f :: rest, err := e, warned := w }).ctl = X :: rest)
    (hr : X.record? = some r) (hm : MuckHolds cfg env s f) (hop : f.isOp = true) :
    (step cfg env { st := s, ctl := replayOp s r :: rest, err := e, warned := w }).st =
      (step cfg env { st := s, ctl := f :: rest, err := e, warned := w }).st ∧
    (step cfg env { st := s, ctl := replayOp s r :: rest, err := e, warned := w }).ctl = X :: rest := by
  rw [(record_resolved hctl hr hm hop).step]
  exact ⟨rfl, hctl⟩

theorem pushes_plain (hA : cfg.autos = []) {f : Ctl} {fs : List Ctl} (hp : Pushes cfg f fs) (hnop : f.isOp = false)
    (hf : f.isK = true → f.inertK = true) : ∀ g ∈ fs, g.isOp = false ∧ g.record? = none := by
  have hauto := auto_off (cfg := cfg) hA
  cases hp <;> first
    | (cases hnop; done)
    | exact fun _ h => absurd h List.not_mem_nil
    | exact List.forall_mem_singleton.2 ⟨rfl, rfl⟩
    | (rename_i h; rw [hauto] at h; cases h)
    | cases hf rfl

theorem op_outcomes (s : State) (f : Ctl) (rest : List Ctl) (e : Option Err) (w : Bool) (hop : f.isOp = true) :
    (∃ X r, (step cfg env { st := s, ctl := f :: rest, err := e, warned := w }).ctl = X :: rest ∧
        X.record? = some r) ∨
    ((step cfg env { st := s, ctl := f :: rest, err := e, warned := w }).st = s ∧
      (step cfg env { st := s, ctl := f :: rest, err := e, warned := w }).ctl = []) ∨
    ((step cfg env { st := s, ctl := f :: rest, err := e, warned := w }).ctl = [] ∧
      ∃ e', (step cfg env { st := s, ctl := f :: rest, err := e, warned := w }).err = some e') ∨
    (f = .opNoOp ∧ (step cfg env { st := s, ctl := f :: rest, err := e, warned := w }).st =
        M.log s (some .noOperation) ∧
      (step cfg env { st := s, ctl := f :: rest, err := e, warned := w }).ctl = rest) := by
  rcases step_ctl (cfg := cfg) (env := env) (m := ⟨s, f :: rest, e, w⟩) rfl with h | ⟨fs, hp, hc, _⟩
  · exact Or.inr (Or.inr (Or.inl h))
  · cases hp <;> first
      | (cases hop; done)
      | exact Or.inl ⟨_, _, hc, rfl⟩
      | exact Or.inr (Or.inr (Or.inr ⟨rfl, rfl, hc⟩))

theorem sim_step (a b : M) (hs : a.st = b.st) (hc : a.ctl = b.ctl) :
    (step cfg env a).st = (step cfg env b).st ∧ (step cfg env a).ctl = (step cfg env b).ctl := by
  cases hctl : a.ctl with
  | nil => rw [step_nil hctl, step_nil (hc ▸ hctl)]; exact ⟨hs, hc⟩
  | cons f rest =>
    obtain ⟨a1, a2, _⟩ := step_eq_out (cfg := cfg) (env := env) hctl
    obtain ⟨b1, b2, _⟩ := step_eq_out (cfg := cfg) (env := env) (hc ▸ hctl)
    rw [a1, a2, b1, b2, hs]
    exact ⟨rfl, rfl⟩

def headRecord : List Ctl → List Operation
  | X :: _ => X.record?.toList
  | [] => []

/-- the records in the log, and the one the running `_update_*` method is about to append -/
def pending (m : M) : List Operation := headRecord m.ctl ++ m.st.ops

/-- the machine driven by a list of records, each replayed at a quiescent point as its `replayOp` -/
inductive ReplayReach (cfg : Config) (env : Env) : List Operation → M → Prop where
  | init : ReplayReach cfg env [] { st := setup cfg env, ctl := [.beginAnte] }
  | step {L m} : ReplayReach cfg env L m → ReplayReach cfg env L (step cfg env m)
  | op {L m} (r : Operation) : ReplayReach cfg env L m → m.ctl = [] →
      ReplayReach cfg env (L ++ [r]) { m with ctl := [replayOp m.st r], err := none, warned := false }

/-- histories of the un-automated machine: any operations with any arguments (refused ones included), no
    exception escaping from inside a cascade, mucks by players who hold cards -/
inductive LogReach (cfg : Config) (env : Env) : M → Prop where
  | init : LogReach cfg env { st := setup cfg env, ctl := [.beginAnte] }
  | step {m} : LogReach cfg env m → CleanStep cfg env m →
      (∀ f rest, m.ctl = f :: rest → MuckHolds cfg env m.st f) → LogReach cfg env (step cfg env m)
  | op {m} (o : Ctl) : LogReach cfg env m → m.ctl = [] → o.isOp = true →
      LogReach cfg env { m with ctl := [o], err := none, warned := false }

/-- the guard on the micro-steps of a `LogReach` history -/
def LogGuard (cfg : Config) (env : Env) (m : M) : Prop :=
  CleanStep cfg env m ∧ ∀ f rest, m.ctl = f :: rest → MuckHolds cfg env m.st f

theorem logReach_iff {m : M} : LogReach cfg env m ↔ GReach cfg env (LogGuard cfg env) m := by
  constructor
  · intro h
    induction h with
    | init => exact .init
    | step _ hc hm ih => exact .step ih ⟨hc, hm⟩
    | op o _ hq ho ih => exact .op o ih hq ho
  · intro h
    induction h with
    | init => exact .init
    | step _ hg ih => exact .step ih hg.1 hg.2
    | op o _ hq ho ih => exact .op o ih hq ho

theorem LogReach.reach {m : M} (h : LogReach cfg env m) : Reach cfg env m := (logReach_iff.1 h).reach

theorem record_upd {X : Ctl} {r : Operation} (h : X.record? = some r) : X.isOp = false ∧ X.isK = false := by
  cases X <;> first | exact ⟨rfl, rfl⟩ | cases h

theorem record_none_of_K {g : Ctl} (h : g.isK = true) : g.record? = none := by
  cases g <;> first | rfl | cases h

theorem headRecord_nil (fs rest : List Ctl) (hfs : ∀ g ∈ fs, g.isOp = false ∧ g.record? = none)
    (hrest : ∀ g ∈ rest, g.isK = true) : headRecord (fs ++ rest) = [] := by
  cases fs with
  | nil =>
    cases rest with
    | nil => rfl
    | cons g r => show g.record?.toList = []; rw [record_none_of_K (hrest g List.mem_cons_self)]; rfl
  | cons g r => show g.record?.toList = []; rw [(hfs g List.mem_cons_self).2]; rfl

/-- replay and original in step -/
structure Sync (L : List Operation) (mm mr : M) : Prop where
  st : mr.st = mm.st
  ctl : mr.ctl = mm.ctl
  log : L.reverse = pending mm
  noOps : ∀ g ∈ mm.ctl, g.isOp = false
  inert : InertCtl mm.ctl

theorem Sync.quiescent {L : List Operation} {mm mr : M} (hst : mr.st = mm.st) (hr : mr.ctl = []) (hm : mm.ctl = [])
    (hlog : L.reverse = mm.st.ops) : Sync L mm mr := by
  refine ⟨hst, hr.trans hm.symm, ?_, ?_, ?_⟩
  · unfold pending; rw [hm]; exact hlog
  · rw [hm]; exact fun _ h => absurd h List.not_mem_nil
  · rw [hm]; exact inert_nil

/-- the original has been handed an operation; the replay waits to see what it is recorded as -/
structure Await (L : List Operation) (mm mr : M) : Prop where
  st : mr.st = mm.st
  q : mr.ctl = []
  o : ∃ o, mm.ctl = [o] ∧ o.isOp = true
  log : L.reverse = mm.st.ops

theorem replay_inv (hA : cfg.autos = []) {mm : M} (h : LogReach cfg env mm) :
    ∃ L mr, ReplayReach cfg env L mr ∧ (Sync L mm mr ∨ Await L mm mr) := by
  induction h with
  | init =>
    exact ⟨[], _, .init, Or.inl ⟨rfl, rfl, rfl, List.forall_mem_singleton.2 rfl, inert_nonK _ rfl⟩⟩
  | op o hr hq ho ih =>
    obtain ⟨L, mr, hrr, hs | ha⟩ := ih
    · refine ⟨L, mr, hrr, Or.inr ⟨hs.st, by rw [hs.ctl, hq], ⟨o, rfl, ho⟩, ?_⟩⟩
      rw [hs.log]; unfold pending; rw [hq]; rfl
    · obtain ⟨o', ho', _⟩ := ha.o
      rw [hq] at ho'; cases ho'
  | @step m hr hclean hmuck ih =>
    obtain ⟨L, mr, hrr, hs | ha⟩ := ih
    · -- in step: the original runs a method or an inert continuation, and so does the replay
      cases hctl : m.ctl with
      | nil => rw [step_nil hctl]; exact ⟨L, mr, hrr, Or.inl hs⟩
      | cons f rest =>
        have hnop : f.isOp = false := hs.noOps f (by rw [hctl]; exact List.mem_cons_self)
        have hin : f.isK = true → f.inertK = true := hs.inert f (by rw [hctl]; exact List.mem_cons_self)
        obtain ⟨e1, e2⟩ := sim_step (cfg := cfg) (env := env) mr m hs.st hs.ctl
        have hlog : L.reverse = (step cfg env m).st.ops := by
          rw [hs.log, ops_step hctl, logs_nonop hnop]; unfold pending; rw [hctl]; rfl
        rcases step_ctl (cfg := cfg) (env := env) hctl with ⟨h0, _⟩ | ⟨fs, hp, hc, _⟩
        · exact ⟨L, _, .step hrr, Or.inl (.quiescent e1 (e2.trans h0) h0 hlog)⟩
        · have hpl := pushes_plain hA hp hnop hin
          refine ⟨L, _, .step hrr, Or.inl ⟨e1, e2, ?_, ?_, ?_⟩⟩
          · rw [hlog]; unfold pending
            rw [hc, headRecord_nil fs rest hpl ((C07_phase_order hr.reach).tail f rest hctl)]; rfl
          · rw [hc]; intro g hg
            rcases List.mem_append.1 hg with hg | hg
            · exact (hpl g hg).1
            · exact hs.noOps g (by rw [hctl]; exact List.mem_cons_of_mem _ hg)
          · rw [hc]; exact (pushes_inert hA hp hin).append (hctl ▸ hs.inert).tail
    · -- the original performs the operation it was handed
      obtain ⟨o, hmo, hop⟩ := ha.o
      have hops := ops_step (cfg := cfg) (env := env) hmo
      have hout := op_outcomes (cfg := cfg) (env := env) m.st o [] m.err m.warned hop
      rw [← step_cons hmo] at hout
      rcases hout with ⟨X, r, hX, hrX⟩ | ⟨hst, hnil⟩ | ⟨hnil, e', he'⟩ | ⟨hno, hst, hnil⟩
      · -- accepted: replay the record
        obtain ⟨l1, l2⟩ := logged_form (cfg := cfg) (env := env) m.st o [] m.err m.warned X r (step_cons hmo ▸ hX) hrX
          (hmuck o [] hmo) hop
        rw [← step_cons hmo] at l1
        have hrr1 := ReplayReach.op r hrr ha.q
        obtain ⟨e1, e2⟩ := sim_step (cfg := cfg) (env := env)
          { mr with ctl := [replayOp mr.st r], err := none, warned := false }
          { st := m.st, ctl := [replayOp m.st r], err := m.err, warned := m.warned } ha.st
          (by show [replayOp mr.st r] = [replayOp m.st r]; rw [ha.st])
        obtain ⟨x1, x2⟩ := record_upd hrX
        refine ⟨L ++ [r], _, .step hrr1, Or.inl ⟨e1.trans l1, e2.trans (l2.trans hX.symm), ?_, ?_, ?_⟩⟩
        · rcases logs_op hop with rfl | hl
          · rw [step_cons hmo] at hX; cases hX
          · rw [List.reverse_append, ha.log]
            unfold pending
            rw [hX, hops, hl]
            show _ = X.record?.toList ++ _
            rw [hrX]; rfl
        · rw [hX]; exact List.forall_mem_singleton.2 x1
        · rw [hX]; exact inert_nonK X x2
      · -- refused: nothing happened
        exact ⟨L, mr, hrr, Or.inl (.quiescent (ha.st.trans hst.symm) ha.q hnil (by rw [ha.log, hst]))⟩
      · -- an exception: by (f) the state is as it was
        rcases hclean with hnone | ⟨f', r', _, _, hst⟩
        · rw [he'] at hnone; cases hnone
        · exact ⟨L, mr, hrr, Or.inl (.quiescent (ha.st.trans hst.symm) ha.q hnil (by rw [ha.log, hst]))⟩
      · subst hno
        obtain ⟨e1, e2⟩ := sim_step (cfg := cfg) (env := env)
          { mr with ctl := [replayOp mr.st .noOperation], err := none, warned := false } m ha.st (by rw [hmo]; rfl)
        refine ⟨L ++ [.noOperation], _, .step (.op .noOperation hrr ha.q),
          Or.inl (.quiescent e1 (e2.trans hnil) hnil ?_)⟩
        rw [List.reverse_append, ha.log, hops]; rfl

theorem C15_replay (hA : cfg.autos = []) {mm : M} (h : LogReach cfg env mm) (hq : mm.ctl = []) :
    ∃ mr, ReplayReach cfg env mm.st.ops.reverse mr ∧ mr.st = mm.st ∧ mr.ctl = [] := by
  obtain ⟨L, mr, hrr, hs | ha⟩ := replay_inv (env := env) hA h
  · have : L = mm.st.ops.reverse := by
      have := hs.log
      unfold pending at this
      rw [hq] at this
      rw [← List.reverse_reverse L, this]; rfl
    rw [← this]
    exact ⟨mr, hrr, hs.st, by rw [hs.ctl, hq]⟩
  · obtain ⟨o, ho, _⟩ := ha.o
    rw [hq] at ho; cases ho

def Ctl.isShow : Ctl → Bool
  | .opShow _ _ => true
  | _ => false

theorem muckHolds_of_not_show {s : State} {f : Ctl} (h : f.isShow = false) : MuckHolds cfg env s f := by
  intro a i v hf
  subst hf
  cases h

theorem LogReach.steps : ∀ (k : Nat) {m : M}, LogReach cfg env m →
    (∀ j, j < k → (M.step cfg env (stepN cfg env j m)).err = none ∧
      ((stepN cfg env j m).ctl.head?.map Ctl.isShow).getD false = false) →
    LogReach cfg env (stepN cfg env k m)
  | 0, _, h, _ => h
  | k + 1, m, h, hc => by
    have h0 := hc 0 (Nat.succ_pos k)
    have h1 : LogReach cfg env (M.step cfg env m) := .step h (Or.inl h0.1) (by
      intro f rest hctl
      apply muckHolds_of_not_show
      have := h0.2
      simp only [stepN, hctl, List.head?_cons, Option.map_some, Option.getD_some] at this
      exact this)
    exact LogReach.steps k h1 (fun j hj => hc (j + 1) (Nat.succ_lt_succ hj))

/-- the premises of `C15_replay` are met: the heads-up hand of `exampleCfg` (no automation) runs its opening cascade
    to the blinds -/
example : LogReach exampleCfg liveEnv (stepN exampleCfg liveEnv 9 { st := setup exampleCfg liveEnv, ctl := [.beginAnte] }) ∧
    exampleCfg.autos = [] :=
  ⟨LogReach.steps 9 .init (by decide +kernel), rfl⟩

end PK
