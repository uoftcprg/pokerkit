/-
  C16 — hand histories survive a save/load round trip and replay to the same result.

  Proved here (the action layer of the PHH format):
  * `C16_amount_roundtrip`   a chip amount written in decimal reads back as the same number.
  * `C16_action_roundtrip`   **each action line means the same operation when parsed as it did when
                             written**: for every action `from_game_state` can write (deal board, deal
                             hole, stand pat / discard, bring-in, fold, check/call, bet/raise to, muck,
                             show — any player, any amount, any list of the 70 card texts incl. unknown
                             cards), `parse_action` of the written line is exactly that action.
  * `C16_log_actions`        the non-dealing actions are written in log order, one line per operation,
                             nothing dropped or reordered, with or without compression;
  * `C16_log_hole`, `C16_log_board`   compression merges consecutive dealing operations but every
                             player is dealt exactly the cards, in the order, the log says, and so is
                             the board.
  These three are instances of `fromLogGo_hom`: compression is invisible to every reading of the lines
  that does not see how dealing lines are merged.
  NOT proved (checked on every generated hand by the C16 check on the implementation): that
  `loads(dumps(h)) = h` and `dumps` is idempotent (python's `tomllib` is not modelled), that replaying
  the loaded history reproduces actions, cards, stacks and payoffs (the repair loop of
  `state_actions`), and that an inapplicable history raises instead of being truncated.
-/
import PK.Properties.C19
namespace PK

theorem parseNat_snoc (cs : List Char) (c : Char) (hne : cs ≠ []) (hc : ('0' ≤ c && c ≤ '9') = true) :
    parseNat (cs ++ [c]) = (parseNat cs).map fun v => v * 10 + (c.toNat - 48) := by
  unfold parseNat
  have h1 : (cs ++ [c]).isEmpty = false := by simp
  have h2 : cs.isEmpty = false := by simpa using hne
  simp only [h1, h2, Bool.false_eq_true, if_false, List.foldl_append, List.foldl_cons, List.foldl_nil]
  split
  · rename_i h
    rw [h]
    rfl
  · rename_i v h
    rw [h, if_pos hc]
    rfl

theorem C16_amount_roundtrip (n : Nat) : parseNat (renderNat n) = some n := by
  induction n using renderNat.induct with
  | case1 n h =>
    obtain ⟨h1, h2, _⟩ := digit_facts n h
    rw [renderNat, dif_pos h]
    simpa [parseNat, h2] using h1
  | case2 n h ih =>
    obtain ⟨h1, h2, _⟩ := digit_facts (n % 10) (Nat.mod_lt _ (by omega))
    rw [renderNat, dif_neg h, parseNat_snoc _ _ (renderNat_ne_nil _) h1, ih, h2, Option.map_some,
      Nat.div_add_mod' n 10]

def plainWord (w : List Char) : Prop := w ≠ [] ∧ ∀ ch ∈ w, isPyWhitespace ch = false

theorem splitWs_words (ws : List (List Char)) (h : ∀ w ∈ ws, plainWord w) :
    splitWs (List.intercalate [' '] ws) = ws := by
  induction ws with
  | nil => rfl
  | cons w rest ih =>
    have ⟨⟨hne, hpl⟩, hrest⟩ := List.forall_mem_cons.1 h
    have hemp : w.isEmpty = false := by simpa using hne
    cases rest with
    | nil =>
      rw [List.intercalate_singleton, splitWs_plain w hpl, hemp]
      rfl
    | cons w2 rest2 =>
      rw [List.intercalate_cons_cons, List.append_assoc, List.singleton_append, splitWs_word w hpl ' ' (by decide),
        hemp, ih hrest]
      rfl

theorem renderNat_plainWord (n : Nat) : plainWord (renderNat n) :=
  ⟨renderNat_ne_nil n, renderNat_all (fun d hd => (digit_facts d hd).2.2) n⟩

theorem playerText_plain (p : Nat) : plainWord (playerText p) :=
  ⟨List.cons_ne_nil _ _, List.forall_mem_cons.2 ⟨by decide, (renderNat_plainWord _).2⟩⟩

theorem parsePlayer_text (p : Nat) : parsePlayer (playerText p) = some p := by
  simp [parsePlayer, playerText, C16_amount_roundtrip]

theorem cardsText_plain (cs : List Card) (h : ∀ c ∈ cs, c ∈ cards70) (hne : cs ≠ []) : plainWord (cardsText cs) := by
  refine ⟨?_, fun ch hch => (reprs_plain cs h ch hch).2.2⟩
  obtain ⟨c, cs, rfl⟩ := List.exists_cons_of_ne_nil hne
  exact List.cons_ne_nil _ _

theorem lit_plain (w : List Char) (h : w ≠ [] ∧ w.all (fun c => !isPyWhitespace c) = true) : plainWord w :=
  ⟨h.1, fun ch hch => by simpa using List.all_eq_true.mp h.2 ch hch⟩

/-- which actions `from_game_state` can write: dealt / shown cards are a non-empty list of card texts
    (known or unknown), discards any list of card texts -/
def PAction.WF : PAction → Prop
  | .dealBoard cs => cs ≠ [] ∧ ∀ c ∈ cs, c ∈ cards70
  | .dealHole _ cs => cs ≠ [] ∧ ∀ c ∈ cs, c ∈ cards70
  | .standPat _ cs => ∀ c ∈ cs, c ∈ cards70
  | .showCards _ cs => cs ≠ [] ∧ ∀ c ∈ cs, c ∈ cards70
  | _ => True

theorem words_plain (a : PAction) (h : a.WF) : ∀ w ∈ a.words, plainWord w := by
  cases a <;>
    simp only [PAction.words, List.forall_mem_cons, List.not_mem_nil, false_imp_iff, implies_true, and_true]
  case dealBoard cs => exact ⟨lit_plain _ (by decide), lit_plain _ (by decide), cardsText_plain cs h.2 h.1⟩
  case dealHole p cs =>
    exact ⟨lit_plain _ (by decide), lit_plain _ (by decide), playerText_plain p, cardsText_plain cs h.2 h.1⟩
  case standPat p cs =>
    split <;> simp only [List.forall_mem_cons, List.not_mem_nil, false_imp_iff, implies_true, and_true]
    · exact ⟨playerText_plain p, lit_plain _ (by decide)⟩
    · rename_i hne
      exact ⟨playerText_plain p, lit_plain _ (by decide), cardsText_plain cs h (by simpa using hne)⟩
  case bringIn p => exact ⟨playerText_plain p, lit_plain _ (by decide)⟩
  case fold p => exact ⟨playerText_plain p, lit_plain _ (by decide)⟩
  case call p => exact ⟨playerText_plain p, lit_plain _ (by decide)⟩
  case cbr p amt => exact ⟨playerText_plain p, lit_plain _ (by decide), renderNat_plainWord amt⟩
  case muck p => exact ⟨playerText_plain p, lit_plain _ (by decide)⟩
  case showAll p => exact ⟨playerText_plain p, lit_plain _ (by decide), lit_plain _ (by decide)⟩
  case showCards p cs => exact ⟨playerText_plain p, lit_plain _ (by decide), cardsText_plain cs h.2 h.1⟩

theorem parseWords_words (a : PAction) (h : a.WF) : parseWords a.words = some a := by
  -- the words are literal up to the player's number, the amount and the cards, so the `match words` ladder
  -- runs by computation to the rung each `show` names (its equation lemmas are slow to generate: they are
  -- not used)
  cases a with
  | noop => rfl
  | dealBoard cs =>
    show (Card.parseChars (cardsText cs)).map _ = _
    rw [cardsText, C19_cards_text cs h.2]
    rfl
  | dealHole p cs =>
    show (match parsePlayer (playerText p), Card.parseChars (cardsText cs) with
      | some p, some cs => some (PAction.dealHole p cs) | _, _ => none) = _
    rw [parsePlayer_text, cardsText, C19_cards_text cs h.2]
  | bringIn p | fold p | call p | muck p | showAll p =>
    show (parsePlayer (playerText p)).map _ = _
    rw [parsePlayer_text]
    rfl
  | cbr p amt =>
    show (match parsePlayer (playerText p), parseNat (renderNat amt) with
      | some p, some a => some (PAction.cbr p a) | _, _ => none) = _
    rw [parsePlayer_text, C16_amount_roundtrip]
  | standPat p cs =>
    cases cs with
    | nil =>
      show (parsePlayer (playerText p)).map _ = _
      rw [parsePlayer_text]
      rfl
    | cons c cs =>
      show (match parsePlayer (playerText p), Card.parseChars (cardsText (c :: cs)) with
        | some p, some cs => some (PAction.standPat p cs) | _, _ => none) = _
      rw [parsePlayer_text, cardsText, C19_cards_text _ h]
  | showCards p cs =>
    obtain ⟨⟨r, s⟩, cs, rfl⟩ := List.exists_cons_of_ne_nil h.1
    -- the ladder asks first whether the third word is `-`; the first character of a card text decides
    have key : parseWords (PAction.showCards p (⟨r, s⟩ :: cs)).words =
        match parsePlayer (playerText p), Card.parseChars (cardsText (⟨r, s⟩ :: cs)) with
        | some p, some cs => some (PAction.showCards p cs)
        | _, _ => none :=
      match r, ((mem_cards70 _).1 (h.2 _ List.mem_cons_self)).1 with
      | 0, _ | 1, _ | 2, _ | 3, _ | 4, _ | 5, _ | 6, _ | 7, _ | 8, _ | 9, _ | 10, _ | 11, _ | 12, _ | 13, _ => rfl
      | r + 14, h => absurd h (Nat.not_lt.2 (Nat.le_add_left 14 r))
    rw [key, parsePlayer_text, cardsText, C19_cards_text _ h.2]

theorem C16_action_roundtrip (a : PAction) (h : a.WF) : parseActionLine a.line = some a := by
  rw [parseActionLine, PAction.line, splitWs_words _ (words_plain a h)]
  exact parseWords_words a h

def isDealing : PAction → Bool
  | .dealBoard _ | .dealHole _ _ => true
  | _ => false

def holeOf (p : Nat) : PAction → List Card
  | .dealHole q cs => if q = p then cs else []
  | _ => []

def boardOf : PAction → List Card
  | .dealBoard cs => cs
  | _ => []

def opHoleOf (p : Nat) : Operation → List Card
  | .holeDealing q cs _ => if q = p then cs else []
  | _ => []

def opBoardOf : Operation → List Card
  | .boardDealing cs => cs
  | _ => []

def Operation.dealing : Operation → Bool
  | .holeDealing _ _ _ | .boardDealing _ => true
  | _ => false

/-- the `d dh` lines of `flush` are dealing lines without board cards -/
theorem holeLines_dealing {l : List Nat} {f : Nat → List Card} {a : PAction}
    (ha : a ∈ l.filterMap fun p => if (f p).isEmpty then none else some (PAction.dealHole p (f p))) :
    isDealing a = true ∧ boardOf a = [] := by
  obtain ⟨p, _, h⟩ := List.mem_filterMap.1 ha
  split at h <;> cases h
  exact ⟨rfl, rfl⟩

theorem flush_notDealing (pd : Pending) : (pd.flush.filter fun a => !isDealing a) = [] := by
  rw [Pending.flush, List.filter_append, List.filter_eq_nil_iff.2 fun a ha => by simp [(holeLines_dealing ha).1]]
  split <;> rfl

theorem flush_board (pd : Pending) : (pd.flush.flatMap boardOf) = pd.board := by
  rw [Pending.flush, List.flatMap_append, List.flatMap_eq_nil_iff.2 fun a ha => (holeLines_dealing ha).2]
  split
  · simp_all
  · simp [boardOf]

theorem holeOf_beyond (pd : Pending) (p : Nat) (h : pd.bound ≤ p) : pd.holeOf p = [] := by
  unfold Pending.holeOf
  rw [List.flatMap_eq_nil_iff]
  rintro ⟨q, cs⟩ hx
  have hb : q + 1 ≤ (pd.hole.map fun x => x.1 + 1).max?.getD 0 :=
    List.le_max?_getD_of_mem (List.mem_map.mpr ⟨(q, cs), hx, rfl⟩)
  rw [Pending.bound, List.foldl_max] at h
  exact if_neg (by omega)

theorem flush_hole (pd : Pending) (p : Nat) : (pd.flush.flatMap (holeOf p)) = pd.holeOf p := by
  have hboard : ((if pd.board.isEmpty then [] else [PAction.dealBoard pd.board]).flatMap (holeOf p)) = [] := by
    split <;> rfl
  -- an empty hand is not written, and contributes nothing either way
  have hlines : ∀ l : List Nat, (l.filterMap fun q =>
      if (pd.holeOf q).isEmpty then none else some (PAction.dealHole q (pd.holeOf q))).flatMap (holeOf p) =
      l.flatMap fun q => if q = p then pd.holeOf p else [] := by
    intro l
    induction l with
    | nil => rfl
    | cons q l ih =>
      rw [List.filterMap_cons, List.flatMap_cons, ← ih]
      by_cases hemp : (pd.holeOf q).isEmpty = true
      · have : pd.holeOf q = [] := by simpa using hemp
        by_cases hqp : q = p <;> simp_all
      · by_cases hqp : q = p <;> simp_all [holeOf]
  rw [Pending.flush, List.flatMap_append, hboard, List.append_nil, hlines, flatMap_single]
  split
  · rfl
  · exact (holeOf_beyond pd p (by omega)).symm

theorem fromLogGo_other (compress : Bool) (op : Operation) (ops : List Operation) (pd : Pending)
    (h : op.dealing = false) :
    fromLogGo compress (op :: ops) pd =
      pd.flush ++ optList (opAction op) ++ fromLogGo compress ops {} := by
  cases op <;> cases h <;> cases compress <;> rfl

theorem opAction_dealing (op : Operation) (h : op.dealing = true) : opAction op = none := by
  cases op <;> cases h <;> rfl

theorem opAction_notDealing {op : Operation} {a : PAction} (h : opAction op = some a) :
    isDealing a = false ∧ (∀ p, holeOf p a = []) ∧ boardOf a = [] := by
  cases op <;> cases h <;> (try exact ⟨rfl, fun _ => rfl, rfl⟩)
  split <;> exact ⟨rfl, fun _ => rfl, rfl⟩

theorem op_notDealing {op : Operation} (h : op.dealing = false) : (∀ p, opHoleOf p op = []) ∧ opBoardOf op = [] := by
  cases op <;> cases h <;> exact ⟨fun _ => rfl, rfl⟩

/-- `hboard`, `hhole`: `F` reads pending cards with more cards added like the pending cards followed by the added
    ones; `g` reads an operation by itself. -/
theorem fromLogGo_hom {β : Type} (F : List PAction → List β) (g : Operation → List β)
    (hF : ∀ a b, F (a ++ b) = F a ++ F b) (hnil : F [] = [])
    (hboard : ∀ (pd : Pending) cs,
      F ({ pd with board := pd.board ++ cs } : Pending).flush = F pd.flush ++ g (.boardDealing cs))
    (hhole : ∀ (pd : Pending) p cs st, F (pd.addHole p cs).flush = F pd.flush ++ g (.holeDealing p cs st))
    (hother : ∀ op, op.dealing = false → F (optList (opAction op)) = g op) (compress : Bool) :
    ∀ (ops : List Operation) (pd : Pending),
      F (fromLogGo compress ops pd) = F pd.flush ++ ops.flatMap g := by
  intro ops
  induction ops with
  | nil => intro pd; simp [fromLogGo]
  | cons op ops ih =>
    intro pd
    have hempty : F ({} : Pending).flush = [] := hnil
    rw [List.flatMap_cons, ← List.append_assoc]
    by_cases hd : op.dealing = true
    · cases op <;> cases hd <;> cases compress
      -- uncompressed, what is pending is written first and the new cards are pending alone;
      -- compressed, they join what is pending
      · show F (pd.flush ++ fromLogGo false ops _) = _
        rw [hF, ih, hhole, hempty, List.nil_append, List.append_assoc]
      · show F ([] ++ fromLogGo true ops _) = _
        rw [List.nil_append, ih, hhole]
      · show F (pd.flush ++ fromLogGo false ops _) = _
        rw [hF, ih, hboard, hempty, List.nil_append, List.append_assoc]
      · show F ([] ++ fromLogGo true ops _) = _
        rw [List.nil_append, ih, hboard]
    · have hd' : op.dealing = false := by simpa using hd
      rw [fromLogGo_other compress op ops pd hd', hF, hF, ih, hother op hd', hempty, List.nil_append,
        List.append_assoc]

theorem fromLogGo_spec (compress : Bool) : ∀ (ops : List Operation) (pd : Pending),
    ((fromLogGo compress ops pd).filter fun a => !isDealing a) = ops.filterMap opAction ∧
    (∀ p, (fromLogGo compress ops pd).flatMap (holeOf p) = pd.holeOf p ++ ops.flatMap (opHoleOf p)) ∧
    (fromLogGo compress ops pd).flatMap boardOf = pd.board ++ ops.flatMap opBoardOf := by
  intro ops pd
  have hother : ∀ op, (optList (opAction op)).filter (fun a => !isDealing a) = optList (opAction op) ∧
      (∀ p, (optList (opAction op)).flatMap (holeOf p) = []) ∧ (optList (opAction op)).flatMap boardOf = [] := by
    intro op
    cases h : opAction op with
    | none => exact ⟨rfl, fun _ => rfl, rfl⟩
    | some a => simp [optList, opAction_notDealing h]
  refine ⟨?_, fun p => ?_, ?_⟩
  · rw [fromLogGo_hom (List.filter fun a => !isDealing a) (fun op => optList (opAction op))
      (fun _ _ => List.filter_append ..) rfl (fun _ _ => by rw [flush_notDealing, flush_notDealing]; rfl)
      (fun _ _ _ _ => by rw [flush_notDealing, flush_notDealing]; rfl) (fun op _ => (hother op).1),
      flush_notDealing, List.nil_append]
    induction ops with
    | nil => rfl
    | cons op ops ih =>
      rw [List.flatMap_cons, List.filterMap_cons, ih]
      cases opAction op <;> rfl
  · rw [← flush_hole]
    exact fromLogGo_hom (List.flatMap (holeOf p)) (opHoleOf p) (fun _ _ => List.flatMap_append ..) rfl
      (fun _ _ => by simp [flush_hole, Pending.holeOf, opHoleOf])
      (fun _ _ _ _ => by simp [flush_hole, Pending.holeOf, Pending.addHole, opHoleOf])
      (fun op h => ((hother op).2.1 p).trans ((op_notDealing h).1 p).symm) compress ops pd
  · rw [← flush_board]
    exact fromLogGo_hom (List.flatMap boardOf) opBoardOf (fun _ _ => List.flatMap_append ..) rfl
      (fun _ _ => by simp [flush_board, opBoardOf])
      (fun _ _ _ _ => by simp [flush_board, Pending.addHole, opBoardOf])
      (fun op h => (hother op).2.2.trans (op_notDealing h).2.symm) compress ops pd

theorem C16_log_actions (compress : Bool) (ops : List Operation) :
    ((fromLog compress ops).filter fun a => !isDealing a) = ops.filterMap opAction :=
  (fromLogGo_spec compress ops {}).1

theorem C16_log_hole (compress : Bool) (ops : List Operation) (p : Nat) :
    (fromLog compress ops).flatMap (holeOf p) = ops.flatMap (opHoleOf p) :=
  (fromLogGo_spec compress ops {}).2.1 p

theorem C16_log_board (compress : Bool) (ops : List Operation) :
    (fromLog compress ops).flatMap boardOf = ops.flatMap opBoardOf :=
  (fromLogGo_spec compress ops {}).2.2

end PK
