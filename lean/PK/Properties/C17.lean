/-
  C17 — ACPC and Pluribus protocol output describes the hand that was played.

  Proved here (lean/PK/Model/Acpc.lean is the model of the writers and of the parser's tokenizer):
  * `C17_actions_in_order`   the action field is, in log order, exactly one token per betting action
                             taken (`f`, `c`, `r…`) and one `/` per board dealing — nothing else is
                             written, nothing is skipped;
  * `C17_raise_is_total_committed`   in no-limit a raise is written as the total number of chips the
                             raiser has committed in the hand after the raise (`-payoff`); in fixed-limit
                             as a bare `r`;
  * `C17_lex_roundtrip`      **reading the action field back yields exactly the tokens written**, for
                             any token sequence and any amounts (the parser's tokenizer inverts the
                             writer);
  * `C17_separators`         the number of `/` in the action field is the number of board dealings;
  * `C17_street_amounts`     the parser's conversion (written amount minus what the biggest raise stood
                             at when the street began) gives back the raise-to amounts of every
                             street, when every raiser has matched all earlier streets in full and no
                             antes were posted — the accounting is exact street after street
                             (`C17_written_amount`: the link to the writer);
  * `C17_pluribus_payoffs`   the Pluribus result field is finishing stack minus starting stack.
  NOT proved: that every raiser of a reachable state has matched the earlier streets (an engine
  invariant), the card fields, and the full parse-replay-rewrite loop; the C17 check decides them on
  generated fixed-limit and no-limit hold'em hands (2-6 players, every viewer seat).  With antes the
  written amount includes the ante while the parser subtracts only street amounts: finding F13.
-/
import PK.Model.Acpc
import PK.Properties.C16
namespace PK

def isBettingOrBoard : Operation → Bool
  | .checkingOrCalling _ _ | .folding _ | .completionBettingOrRaisingTo _ _ | .boardDealing _ => true
  | _ => false

def tokKind : ATok → Nat
  | .fold => 0 | .call => 1 | .raise _ => 2 | .street => 3

def opKind : Operation → Nat
  | .folding _ => 0 | .checkingOrCalling _ _ => 1 | .completionBettingOrRaisingTo _ _ => 2 | _ => 3

theorem C17_actions_in_order (nt : Bool) : ∀ (ops : List Operation) (c : ACtx),
    (acpcTokens nt c ops).map tokKind = (ops.filter isBettingOrBoard).map opKind := by
  intro ops
  induction ops with
  | nil => intro c; rfl
  | cons op ops ih =>
    intro c
    unfold acpcTokens
    cases op <;> simp [acpcStep, isBettingOrBoard, tokKind, opKind, ih, List.filter_cons]

theorem C17_raise_is_total_committed (nt : Bool) (c : ACtx) (p : Nat) (x : Int) :
    (acpcStep nt c (.completionBettingOrRaisingTo p x)).2 =
      some (.raise (if nt then some (getI (acpcStep nt c (.completionBettingOrRaisingTo p x)).1.committed p).toNat
                    else none)) := rfl

/-- the amount written is what the raiser had committed before plus what the raise adds to his bet of this street -/
theorem C17_written_amount (c : ACtx) (p : Nat) (x : Int) (hp : p < c.committed.length) :
    getI (acpcStep true c (.completionBettingOrRaisingTo p x)).1.committed p =
      (getI c.committed p - getI c.bets p) + x := by
  simp only [acpcStep, ACtx.put]
  rw [getI_set_eq _ _ _ hp]
  omega

/-- an action text begins with no digit: the digits of an amount end where the next token starts -/
theorem actionText_head (toks : List ATok) : (actionText toks).takeWhile isDigit = [] := by
  cases toks with
  | nil => rfl
  | cons t ts =>
    cases t with
    | raise a => cases a <;> rfl
    | _ => rfl

theorem lexActions_text (t : ATok) (rest : List Char) (fuel : Nat) (hr : rest.takeWhile isDigit = []) :
    lexActions (fuel + 1) (t.text ++ rest) = (lexActions fuel rest).map (t :: ·) := by
  have hd : rest.dropWhile isDigit = rest := by
    have := List.takeWhile_append_dropWhile (p := isDigit) (l := rest)
    rwa [hr] at this
  cases t with
  | fold => rfl
  | street => rfl
  | call =>
    show (lexActions fuel (rest.dropWhile isDigit)).map _ = _
    rw [hd]
  | raise a =>
    cases a with
    | none =>
      show (lexActions fuel (rest.dropWhile isDigit)).map (ATok.raise (parseNat (rest.takeWhile isDigit)) :: ·) = _
      rw [hr, hd]
      rfl
    | some a =>
      have ha : ∀ ch ∈ renderNat a, isDigit ch = true := renderNat_all (fun d hd => (digit_facts d hd).1) a
      show (lexActions fuel ((renderNat a ++ rest).dropWhile isDigit)).map
        (ATok.raise (parseNat ((renderNat a ++ rest).takeWhile isDigit)) :: ·) = _
      rw [List.takeWhile_append_of_pos ha, List.dropWhile_append_of_pos ha, hr, hd, List.append_nil,
        C16_amount_roundtrip]

theorem C17_lex_roundtrip : ∀ (toks : List ATok) (fuel : Nat), toks.length < fuel →
    lexActions fuel (actionText toks) = some toks := by
  intro toks
  induction toks with
  | nil => intro fuel h; cases fuel with | zero => omega | succ f => rfl
  | cons t ts ih =>
    intro fuel h
    obtain ⟨f, rfl⟩ : ∃ f, fuel = f + 1 := ⟨fuel - 1, by omega⟩
    rw [actionText, List.flatMap_cons, ← actionText, lexActions_text t _ f (actionText_head ts),
      ih f (by simpa using h)]
    rfl

theorem C17_separators (nt : Bool) (ops : List Operation) (c : ACtx) :
    ((acpcTokens nt c ops).filter (· == .street)).length =
      (ops.filter fun op => match op with | .boardDealing _ => true | _ => false).length := by
  induction ops generalizing c with
  | nil => rfl
  | cons op ops ih =>
    unfold acpcTokens
    cases op <;> simp [acpcStep, ih]

/-- the tokens of the raises of a hand given street by street as raise-to amounts: every raise is
    written as `base + x`, `base` being the sum of the final levels of the earlier streets -/
def writeStreets : Nat → Nat → List (List Nat) → List ATok
  | _, _, [] => []
  | base, lvl, [st] => st.map fun x => .raise (some (base + x))
  | base, lvl, st :: st2 :: rest =>
    (st.map fun x => .raise (some (base + x))) ++ .street ::
      writeStreets (base + (st.getLast?.getD lvl)) 0 (st2 :: rest)

theorem streetAmounts_raises (base : Nat) : ∀ (st : List Nat) (lvl : Nat) (rest : List ATok),
    streetAmounts base (base + lvl) ((st.map fun x => ATok.raise (some (base + x))) ++ rest) =
      (st.map fun (x : Nat) => some (x : Int)) ++ streetAmounts base (base + st.getLast?.getD lvl) rest := by
  intro st
  induction st with
  | nil => intro lvl rest; rfl
  | cons x st ih =>
    intro lvl rest
    rw [List.map_cons, List.cons_append, streetAmounts, ih x rest, List.getLast?_cons, Option.getD_some,
      show ((base + x : Nat) : Int) - (base : Int) = (x : Int) by omega]
    rfl

theorem C17_street_amounts : ∀ (streets : List (List Nat)) (base lvl : Nat),
    streetAmounts base (base + lvl) (writeStreets base lvl streets) =
      streets.flatten.map fun (x : Nat) => some (x : Int) := by
  intro streets
  induction streets with
  | nil => intro base lvl; rfl
  | cons st rest ih =>
    intro base lvl
    cases rest with
    | nil =>
      have := streetAmounts_raises base st lvl []
      rw [List.append_nil] at this
      rw [writeStreets, this, streetAmounts, List.append_nil, List.flatten_cons, List.flatten_nil, List.append_nil]
    | cons st2 rest2 =>
      have h := ih (base + st.getLast?.getD lvl) 0
      rw [Nat.add_zero] at h
      rw [writeStreets, streetAmounts_raises base st lvl, streetAmounts, h, ← List.map_append]
      rfl

theorem C17_pluribus_payoffs (starting finishing : List Int) (i : Nat) (h1 : i < starting.length)
    (h2 : i < finishing.length) :
    (pluribusPayoffs starting finishing)[i]? = some (finishing[i] - starting[i]) := by
  unfold pluribusPayoffs
  simp only [List.getElem?_map, List.getElem?_zip_eq_some, Option.map_eq_some_iff, Prod.exists]
  exact ⟨starting[i], finishing[i], ⟨List.getElem?_eq_getElem h1, List.getElem?_eq_getElem h2⟩, rfl⟩

end PK
