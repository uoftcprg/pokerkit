/-
  C18 — range notation, equities and ICM values are mathematically consistent.

  Range notation (`parse_range`).  The basic forms, for any two ranks: only the order of the two ranks
  matters, so for counts and union three cases are evaluated by the kernel and every other pair of ranks is a
  relabelling of one of them (`basic_forms`); the elements are read off the definition, for any two known ranks
  (`elements_of_known`).  The three theorems are stated for the ranks of the standard 13-rank order and the 9-rank
  short-deck order.
  * `C18_counts`          a pair is 6 combinations, a suited hand 4, an offsuit hand 12, `XY` 16;
                          `XXs` is empty and `XXo` is `XX`.
  * `C18_disjoint_union`  `XY` is the disjoint union of `XYs` and `XYo`.
  * `C18_elements`        every element is a set of two distinct real cards of the two ranks.
  For every rank order and all positions:
  * `C18_plus`, `C18_pair_plus`   `XY+` (`XYs+`, `XYo+`) is the union of the hands with the higher
                          of the two ranks and every kicker from the lower rank up to just below the
                          higher one; `XX+` the union of the pairs from `XX` up to the top rank.
  * `C18_interval`        `AB-CD` is the union of the hands between the two ends, moving both ranks
                          in step; refused when the two ends are not a shifted copy of each other.
  * `C18_text_layer`, `C18_text_plus`   the basic forms and `XY+` in text are the rank-level ones, for every
                          duplicate-free order of known ranks, `r < 13` (`glueP_of_nodup`, `plusRange_text`);
                          stated for the two orders above.  `XX+` and `AB-CD` in text (`intervalRange`) reach
                          `intervalRangeI` through `rankIndex`, which `C18_text_layer` evaluates; no theorem
                          states that step.
  * `C18_separators`      blanks, commas and semicolons are interchangeable, character for character (texts of the
                          same length; a separator run of another length is not covered).
  Equities with every card given (`__calculate_equities_0`, nothing left to sample), over `Rat`:
  * `C18_equity_nonneg`, `C18_equity_sum`   shares are non-negative and sum to one;
  * `C18_equity_winners`  a player has a share of a hand type iff he holds the best hand of that type
                          — the same maximum and the same equality test the engine's `push_chips` uses
                          (`C18_same_maximum`), and a hand type nobody holds gets no share
                          (`C18_no_hand_no_share`).
  ICM (`calculate_icm`) over `Rat`:
  * `C18_icm_nonneg`      values are non-negative for non-negative payouts and positive chips;
  * `C18_icm_sum_take`, `C18_icm_sum`   they sum to the payouts of the places that can be reached: the
                          first `n` with `n` players, so the whole prize pool when there are at most as many
                          payouts as players (`orderProbability_sum`: the probabilities of all finishing
                          orders add up to one);
  * ordering by chips is NOT proved; it is checked on every generated input by the C18 check.
  The python code computes equities and ICM in binary floating point; the theorems are about exact
  rational arithmetic, and the check compares the two within a tolerance.
-/
import PK.Model.Analysis
import PK.Proofs.Sorted
import Mathlib.Tactic.Positivity
import Mathlib.Algebra.BigOperators.Ring.List
namespace PK

/-- as a python set: sorted, duplicate-free -/
def asSet (l : List (List Card)) : List (List Card) := rangeSet l

def orders : List (List Rank) := [RankOrder.standard, RankOrder.shortDeck]

def CountsP (a b : Rank) : Prop :=
  (asSet (basicRangeR a b .plain)).length = (if a = b then 6 else 16) ∧
  (asSet (basicRangeR a b .suited)).length = (if a = b then 0 else 4) ∧
  (asSet (basicRangeR a b .offsuit)).length = (if a = b then 6 else 12) ∧
  (a = b → asSet (basicRangeR a b .offsuit) = asSet (basicRangeR a b .plain))
instance (a b : Rank) : Decidable (CountsP a b) := by unfold CountsP; infer_instance

def UnionP (a b : Rank) : Prop :=
  asSet (basicRangeR a b .plain) = asSet (basicRangeR a b .suited ++ basicRangeR a b .offsuit) ∧
  ∀ x ∈ basicRangeR a b .suited, ∀ y ∈ basicRangeR a b .offsuit, x ≠ y
instance (a b : Rank) : Decidable (UnionP a b) := by unfold UnionP; infer_instance

def goodElement (a b : Rank) (e : List Card) : Bool :=
  match e with
  | [x, y] => x != y && x.known && y.known &&
      ((x.rank == a && y.rank == b) || (x.rank == b && y.rank == a))
  | _ => false

def ElementsP (a b : Rank) : Prop :=
  ∀ sfx ∈ [RangeSuffix.plain, .suited, .offsuit], (basicRangeR a b sfx).all (goodElement a b) = true

def suitsOf (same : Bool) : RangeSuffix → List (Suit × Suit)
  | .plain => if same then suitCombinations else suitProduct
  | .suited => if same then [] else suitZip
  | .offsuit => if same then suitCombinations else suitPermutations

theorem basicRangeR_eq (a b : Rank) (sfx : RangeSuffix) :
    basicRangeR a b sfx = iterateSuitsR a b (suitsOf (a == b) sfx) := by
  cases h : a == b <;> cases sfx <;> simp only [basicRangeR, suitsOf, bne, h] <;> rfl

theorem suitsOf_spec (same : Bool) (sfx : RangeSuffix) :
    ∀ p ∈ suitsOf same sfx, p.1 < 4 ∧ p.2 < 4 ∧ (same = true → p.1 ≠ p.2) := by
  cases same <;> cases sfx <;> decide

theorem cardSet_pair (x y : Card) :
    cardSet [x, y] = if x.code < y.code then [x, y] else if x.code = y.code then [y] else [y, x] := rfl

/-! A relabelling `f` of the cards that keeps the order of the card codes commutes with everything the
    basic forms are made of: the card sets and the sorted, duplicate-free ranges inspect cards only by
    comparing codes and by equality. -/
section relabel
variable {f : Card → Card} (hlt : ∀ x y, (f x).code < (f y).code ↔ x.code < y.code)
  (hinj : Function.Injective f)
include hlt

theorem code_eq_of_lt (x y : Card) : (f x).code = (f y).code ↔ x.code = y.code := by
  simp only [Nat.le_antisymm_iff, ← Nat.not_lt, hlt]

theorem cardSet_pair_map (x y : Card) : (cardSet [x, y]).map f = cardSet [f x, f y] := by
  simp only [cardSet_pair, hlt, code_eq_of_lt hlt]
  split_ifs <;> rfl

theorem lexLt_map : ∀ x y : List Card,
    lexLt ((x.map f).map Card.code) ((y.map f).map Card.code) = lexLt (x.map Card.code) (y.map Card.code)
  | [], [] => rfl
  | [], _ :: _ => rfl
  | _ :: _, [] => rfl
  | a :: x, b :: y => by
    simp only [List.map_cons, lexLt, hlt, beq_eq_decide, code_eq_of_lt hlt, lexLt_map x y]

include hinj

theorem insSet_map (x : List Card) (l : List (List Card)) :
    insSet (x.map f) (l.map (List.map f)) = (insSet x l).map (List.map f) := by
  induction l with
  | nil => rfl
  | cons y ys ih =>
    simp only [insSet, List.map_cons, lexLt_map hlt, beq_iff_eq, (List.map_injective_iff.mpr hinj).eq_iff]
    split_ifs
    · rfl
    · rfl
    · rw [List.map_cons, ih]

theorem asSet_map (l : List (List Card)) : asSet (l.map (List.map f)) = (asSet l).map (List.map f) := by
  unfold asSet rangeSet
  rw [List.foldr_map]
  exact List.foldr_hom (init := []) _ (insSet_map hlt hinj)

variable {a b a' b' : Nat} (ha : ∀ s < 4, f ⟨a, s⟩ = ⟨a', s⟩) (hb : ∀ s < 4, f ⟨b, s⟩ = ⟨b', s⟩)
  (hab : a = b ↔ a' = b')
include ha hb hab

omit hinj in
theorem basicRangeR_map (sfx : RangeSuffix) :
    basicRangeR a' b' sfx = (basicRangeR a b sfx).map (List.map f) := by
  rw [basicRangeR_eq, basicRangeR_eq, show (a' == b') = (a == b) by simp only [beq_eq_decide, hab],
    iterateSuitsR, iterateSuitsR, List.map_map]
  refine List.map_congr_left fun p hp => ?_
  obtain ⟨h0, h1, _⟩ := suitsOf_spec _ _ p hp
  rw [Function.comp_apply, cardSet_pair_map hlt, ha _ h0, hb _ h1]

theorem forms_map (h : CountsP a b ∧ UnionP a b) : CountsP a' b' ∧ UnionP a' b' := by
  obtain ⟨⟨c1, c2, c3, c4⟩, u1, u2⟩ := h
  simp only [CountsP, UnionP, basicRangeR_map hlt ha hb hab, asSet_map hlt hinj, ← List.map_append, List.length_map, ← hab]
  refine ⟨⟨c1, c2, c3, fun e => congrArg _ (c4 e)⟩, congrArg _ u1, ?_⟩
  intro x hx y hy
  obtain ⟨x', hx', rfl⟩ := List.mem_map.mp hx
  obtain ⟨y', hy', rfl⟩ := List.mem_map.mp hy
  exact fun e => u2 x' hx' y' hy' (List.map_injective_iff.mpr hinj e)

end relabel

/-- moves rank 0 to `d` and every higher rank up by `e - 1`, so rank 1 to `e`; for `d < e` the card codes
    keep their order.  The test is on the code, not on the rank, so that this holds of all cards, whatever
    their suit. -/
def spread (d e : Nat) (c : Card) : Card := ⟨c.rank + if c.code < 5 then d else e - 1, c.suit⟩

theorem spread_code (d e : Nat) (c : Card) :
    (spread d e c).code = c.code + 5 * if c.code < 5 then d else e - 1 := by
  simp only [spread, Card.code]
  omega

theorem spread_lt {d e : Nat} (h : d < e) (x y : Card) :
    (spread d e x).code < (spread d e y).code ↔ x.code < y.code := by
  rw [spread_code, spread_code]
  split_ifs <;> omega

theorem spread_inj {d e : Nat} (h : d < e) : Function.Injective (spread d e) := by
  intro x y hxy
  have hc := (code_eq_of_lt (spread_lt h) x y).mp (congrArg Card.code hxy)
  have hs : x.suit = y.suit := (congrArg Card.suit hxy :)
  obtain ⟨r, s⟩ := x
  obtain ⟨r', s'⟩ := y
  subst hs
  rw [show r = r' from Nat.eq_of_mul_eq_mul_right (by decide) (Nat.add_right_cancel hc)]

theorem spread_zero (d e s : Nat) (hs : s < 4) : spread d e ⟨0, s⟩ = ⟨d, s⟩ := by
  simp [spread, Card.code, Nat.lt_succ_of_lt hs]

theorem spread_one {d e : Nat} (h : d < e) (s : Nat) : spread d e ⟨1, s⟩ = ⟨e, s⟩ := by
  simp [spread, Card.code]
  exact Nat.add_sub_of_le (Nat.zero_lt_of_lt h)

/-- the ranks 0 and 1, taken in the order of `a` and `b`, are spread out to `a` and `b` -/
theorem basic_forms (a b : Nat) : CountsP a b ∧ UnionP a b := by
  rcases Nat.lt_trichotomy a b with h | rfl | h
  · have base : CountsP 0 1 ∧ UnionP 0 1 := by decide +kernel
    exact forms_map (spread_lt h) (spread_inj h) (spread_zero a b) (fun s _ => spread_one h s) (by omega) base
  · have base : CountsP 0 0 ∧ UnionP 0 0 := by decide +kernel
    have h := Nat.lt_succ_self a
    exact forms_map (spread_lt h) (spread_inj h) (spread_zero a _) (spread_zero a _) (by omega) base
  · have base : CountsP 1 0 ∧ UnionP 1 0 := by decide +kernel
    exact forms_map (spread_lt h) (spread_inj h) (fun s _ => spread_one h s) (spread_zero b a) (by omega) base

theorem goodElement_cardSet {a b s0 s1 : Nat} (ha : a ≠ 13) (hb : b ≠ 13) (h0 : s0 < 4) (h1 : s1 < 4)
    (hne : a = b → s0 ≠ s1) : goodElement a b (cardSet [⟨a, s0⟩, ⟨b, s1⟩]) = true := by
  have hcode : Card.code ⟨a, s0⟩ ≠ Card.code ⟨b, s1⟩ := by
    simp only [Card.code]
    omega
  have hcard : (⟨a, s0⟩ : Card) ≠ ⟨b, s1⟩ := fun e => hcode (congrArg _ e)
  rw [cardSet_pair, if_neg hcode]
  split <;>
    simp [goodElement, Card.known, Card.isUnknown, Rank.unknown, Suit.unknown, ha, hb, h0.ne, h1.ne, hcard,
      hcard.symm]

theorem elements_of_known (a b : Nat) (ha : a ≠ 13) (hb : b ≠ 13) : ElementsP a b := by
  intro sfx _
  rw [basicRangeR_eq, iterateSuitsR, List.all_map, List.all_eq_true]
  intro p hp
  obtain ⟨h0, h1, hne⟩ := suitsOf_spec _ _ p hp
  exact goodElement_cardSet ha hb h0 h1 fun e => hne (beq_iff_eq.mpr e)

theorem orders_ok : ∀ ro ∈ orders, ro.Nodup ∧ ∀ r ∈ ro, r < 13 := by decide

/-- the hypotheses are not used -/
theorem C18_counts (ro : List Rank) (hro : ro ∈ orders) (a b : Rank) (ha : a ∈ ro) (hb : b ∈ ro) :
    CountsP a b := (basic_forms a b).1

theorem C18_disjoint_union (ro : List Rank) (hro : ro ∈ orders) (a b : Rank) (ha : a ∈ ro) (hb : b ∈ ro) :
    UnionP a b := (basic_forms a b).2

theorem C18_elements (ro : List Rank) (hro : ro ∈ orders) (a b : Rank) (ha : a ∈ ro) (hb : b ∈ ro) :
    ElementsP a b :=
  elements_of_known a b (Nat.ne_of_lt ((orders_ok ro hro).2 a ha)) (Nat.ne_of_lt ((orders_ok ro hro).2 b hb))

theorem take_drop_eq_map {α} (l : List α) (d : α) (i len : Nat) (h : i + len ≤ l.length) :
    (l.drop i).take len = (List.range len).map fun k => l.getD (i + k) d := by
  apply List.ext_getElem
  · simp; omega
  · intro k h1 h2
    simp only [List.getElem_take, List.getElem_drop, List.getElem_map, List.getElem_range]
    exact List.getElem_eq_getD d

/-- (`13`, the default of `getD`, is the unknown rank; positions inside `ro` never reach it) -/
def plusSpecI (ro : List Rank) (i0 i1 : Nat) (sfx : RangeSuffix) : List (List Card) :=
  let lo := min i0 i1
  let hi := max i0 i1
  (List.range (hi - lo)).flatMap fun k => basicRangeR (ro.getD hi 13) (ro.getD (lo + k) 13) sfx

theorem C18_plus (ro : List Rank) (i0 i1 : Nat) (h0 : i0 < ro.length) (h1 : i1 < ro.length)
    (sfx : RangeSuffix) : plusRangeI ro i0 i1 sfx = plusSpecI ro i0 i1 sfx := by
  unfold plusRangeI plusSpecI
  simp only []
  rw [take_drop_eq_map ro 13 (min i0 i1) (max i0 i1 - min i0 i1) (by omega), List.flatMap_map]

def intervalSpecI (ro : List Rank) (i0 i1 i2 i3 : Nat) (sfx : RangeSuffix) : Option (List (List Card)) :=
  if (i1 : Int) - i0 ≠ (i3 : Int) - i2 then none
  else
    let a := min i0 i2
    let b := if i0 ≤ i2 then i1 else i3
    let steps := max i0 i2 - a
    some ((List.range (steps + 1)).flatMap fun k => basicRangeR (ro.getD (a + k) 13) (ro.getD (b + k) 13) sfx)

theorem zip_slices {α} (l : List α) (d : α) (a b len : Nat) (ha : a + len ≤ l.length) (hb : b + len ≤ l.length) :
    ((l.drop a).take len).zip ((l.drop b).take len) =
      (List.range len).map fun k => (l.getD (a + k) d, l.getD (b + k) d) := by
  rw [take_drop_eq_map l d a len ha, take_drop_eq_map l d b len hb, List.zip_map']

theorem C18_interval (ro : List Rank) (i0 i1 i2 i3 : Nat) (h0 : i0 < ro.length)
    (h1 : i1 < ro.length) (h2 : i2 < ro.length) (h3 : i3 < ro.length) (sfx : RangeSuffix) :
    intervalRangeI ro i0 i1 i2 i3 sfx = intervalSpecI ro i0 i1 i2 i3 sfx := by
  unfold intervalRangeI intervalSpecI
  by_cases hgap : (i1 : Int) - i0 = (i3 : Int) - i2
  · rw [if_neg (by simpa using hgap), if_neg (not_not.mpr hgap)]
    -- the two slices have the same length because the two ends have the same gap
    by_cases hsw : i0 > i2
    · simp only [hsw, if_true, if_neg (Nat.not_le.mpr hsw), Nat.min_eq_right hsw.le, Nat.max_eq_left hsw.le]
      rw [show i0 + 1 - i2 = i0 - i2 + 1 by omega, show i1 + 1 - i3 = i0 - i2 + 1 by omega,
        zip_slices ro 13 i2 i3 _ (by omega) (by omega), List.flatMap_map]
    · have hle : i0 ≤ i2 := Nat.le_of_not_gt hsw
      simp only [hsw, if_false, if_pos hle, Nat.min_eq_left hle, Nat.max_eq_right hle]
      rw [show i2 + 1 - i0 = i2 - i0 + 1 by omega, show i3 + 1 - i1 = i2 - i0 + 1 by omega,
        zip_slices ro 13 i0 i1 _ (by omega) (by omega), List.flatMap_map]
  · rw [if_pos (by simpa using hgap), if_pos hgap]

/-- `plusRange` hands `XX+` to `intervalRange` with the top rank of the order twice: this is that call at the level
    of positions -/
theorem C18_pair_plus (ro : List Rank) (i : Nat) (hi : i < ro.length) (sfx : RangeSuffix) :
    intervalRangeI ro i i (ro.length - 1) (ro.length - 1) sfx =
      some ((List.range (ro.length - i)).flatMap fun k => basicRangeR (ro.getD (i + k) 13) (ro.getD (i + k) 13) sfx) := by
  have hle : i ≤ ro.length - 1 := by omega
  rw [C18_interval ro i i _ _ hi hi (by omega) (by omega)]
  unfold intervalSpecI
  simp only [Int.sub_self, ne_eq, not_true_eq_false, if_false, if_pos hle, Nat.min_eq_left hle, Nat.max_eq_right hle]
  rw [show ro.length - 1 - i + 1 = ro.length - i by omega]

def sfxs : List RangeSuffix := [.plain, .suited, .offsuit]

def GlueP (ro : List Rank) (i0 i1 : Nat) : Prop :=
  rankIndex ro (rankChars.getD (ro.getD i0 13) '?') = .ok i0 ∧
  rankOfChar (rankChars.getD (ro.getD i0 13) '?') = some (ro.getD i0 13) ∧
  ∀ sfx ∈ sfxs,
    basicRange (rankChars.getD (ro.getD i0 13) '?') (rankChars.getD (ro.getD i1 13) '?') sfx =
      .ok (basicRangeR (ro.getD i0 13) (ro.getD i1 13) sfx)

theorem rankOfChar_rankChars : ∀ r < 14, rankOfChar (rankChars.getD r '?') = some r := by decide

theorem basicRange_of_ranks {c0 c1 : Char} {a b : Rank} (h0 : rankOfChar c0 = some a)
    (h1 : rankOfChar c1 = some b) (sfx : RangeSuffix) :
    basicRange c0 c1 sfx = .ok (basicRangeR a b sfx) := by
  unfold basicRange
  split
  · rename_i h
    simp only [Bool.and_eq_true, beq_iff_eq] at h
    obtain ⟨rfl, rfl⟩ := h
    cases h0.symm.trans h1
    simp [basicRangeR]
  · rw [h0, h1]

theorem rankIndex_of_rank {ro : List Rank} {c : Char} {a : Rank} (h : rankOfChar c = some a) (ha : a ∈ ro) :
    rankIndex ro c = .ok (ro.idxOf a) := by
  simp only [rankIndex, h, List.contains_eq_mem, ha, decide_true, if_true]

theorem glueP_of_nodup (ro : List Rank) (hnd : ro.Nodup) (hr : ∀ r ∈ ro, r < 13) (i0 i1 : Nat)
    (h0 : i0 < ro.length) (h1 : i1 < ro.length) : GlueP ro i0 i1 := by
  unfold GlueP
  rw [← List.getElem_eq_getD (h := h0), ← List.getElem_eq_getD (h := h1)]
  have c0 := rankOfChar_rankChars _ (Nat.lt_succ_of_lt (hr _ (List.getElem_mem h0)))
  have c1 := rankOfChar_rankChars _ (Nat.lt_succ_of_lt (hr _ (List.getElem_mem h1)))
  refine ⟨?_, c0, fun sfx _ => basicRange_of_ranks c0 c1 sfx⟩
  rw [rankIndex_of_rank c0 (List.getElem_mem h0), hnd.idxOf_getElem]

theorem C18_text_layer (ro : List Rank) (hro : ro ∈ orders) (i0 i1 : Nat) (h0 : i0 < ro.length)
    (h1 : i1 < ro.length) : GlueP ro i0 i1 :=
  glueP_of_nodup ro (orders_ok ro hro).1 (orders_ok ro hro).2 i0 i1 h0 h1

theorem plusRange_text (ro : List Rank) (hnd : ro.Nodup) (hr : ∀ r ∈ ro, r < 13) (i0 i1 : Nat)
    (h0 : i0 < ro.length) (h1 : i1 < ro.length) (hne : i0 ≠ i1) (sfx : RangeSuffix) :
    plusRange ro (rankChars.getD (ro.getD i0 13) '?') (rankChars.getD (ro.getD i1 13) '?') sfx =
      .ok (plusRangeI ro i0 i1 sfx) := by
  obtain ⟨ha, _, _⟩ := glueP_of_nodup ro hnd hr i0 i1 h0 h1
  obtain ⟨hb, _, _⟩ := glueP_of_nodup ro hnd hr i1 i0 h1 h0
  -- different positions have different characters, since the characters are read back as the positions
  have hc : (rankChars.getD (ro.getD i0 13) '?' == rankChars.getD (ro.getD i1 13) '?') = false := by
    rw [beq_eq_false_iff_ne]
    intro heq
    rw [heq, hb] at ha
    cases ha
    exact hne rfl
  simp only [plusRange, hc, Bool.false_eq_true, if_false, ha, hb]

theorem C18_text_plus (ro : List Rank) (hro : ro ∈ orders) (i0 i1 : Nat) (h0 : i0 < ro.length)
    (h1 : i1 < ro.length) (hne : i0 ≠ i1) (sfx : RangeSuffix) :
    plusRange ro (rankChars.getD (ro.getD i0 13) '?') (rankChars.getD (ro.getD i1 13) '?') sfx =
      .ok (plusRangeI ro i0 i1 sfx) :=
  plusRange_text ro (orders_ok ro hro).1 (orders_ok ro hro).2 i0 i1 h0 h1 hne sfx

def isRangeSep (c : Char) : Bool := c == ' ' || c == ',' || c == ';'

theorem sepNorm (a : Char) (h : isRangeSep a = true) :
    (if (a == ',' || a == ';') = true then ' ' else a) = ' ' := by
  unfold isRangeSep at h
  simp only [Bool.or_eq_true, beq_iff_eq] at h
  rcases h with (rfl | rfl) | rfl <;> decide

theorem C18_separators (ro : List Rank) (t t' : List Char)
    (h : List.Forall₂ (fun a b => a = b ∨ (isRangeSep a = true ∧ isRangeSep b = true)) t t') :
    parseRange ro t = parseRange ro t' := by
  have : (t.map fun c => if c == ',' || c == ';' then ' ' else c) =
      (t'.map fun c => if c == ',' || c == ';' then ' ' else c) := by
    induction h with
    | nil => rfl
    | cons hab _ ih =>
      simp only [List.map_cons, List.cons.injEq]
      refine ⟨?_, ih⟩
      rcases hab with rfl | ⟨ha, hb⟩
      · rfl
      · rw [sepNorm _ ha, sepNorm _ hb]
  unfold parseRange rangeTokens
  rw [this]

theorem sum_map_div_sum {α} (l : List α) (f : α → Rat) (h : (l.map f).sum ≠ 0) :
    (l.map fun x => f x / (l.map f).sum).sum = 1 := by
  simp only [div_eq_mul_inv, List.sum_map_mul_right]
  exact mul_inv_cancel₀ h

theorem sum_swap {α β} (ts : List α) (is : List β) (f : α → β → Rat) :
    (is.map fun i => (ts.map fun t => f t i).sum).sum = (ts.map fun t => (is.map fun i => f t i).sum).sum :=
  Multiset.sum_map_sum_map (is : Multiset β) (ts : Multiset α) (f := fun i t => f t i)

theorem sum_indicator {α} (l : List α) (p : α → Bool) (c : Rat) :
    (l.map fun x => if p x then c else 0).sum = c * ((l.filter p).length : Rat) := by
  rw [List.sum_map_ite, List.map_const', List.sum_replicate, List.sum_map_zero, add_zero, nsmul_eq_mul, mul_comm]
  simp only [Bool.decide_eq_true]

theorem typeShare_nonneg (k : Nat) (hs : List (Option Int)) (i : Nat) : 0 ≤ typeShare k hs i := by
  unfold typeShare
  simp only []
  split
  · positivity
  · exact le_refl 0

theorem C18_equity_nonneg (n : Nat) (hands : List (List (Option Int))) :
    ∀ e ∈ equitiesGiven n hands, 0 ≤ e := by
  intro e he
  simp only [equitiesGiven, ← List.sum_eq_foldl, List.mem_map] at he
  obtain ⟨i, _, rfl⟩ := he
  exact List.sum_nonneg (List.forall_mem_map.mpr fun hs _ => typeShare_nonneg _ hs i)

theorem C18_same_maximum (l : List (Option Int)) : maxOpt l = State.maxOrNone l := rfl

theorem C18_equity_winners (k : Nat) (hk : 0 < k) (hs : List (Option Int)) (i : Nat)
    (hw : 0 < (hs.filter fun h => h.isSome && h == maxOpt hs).length) :
    0 < typeShare k hs i ↔ ((hs.getD i none).isSome = true ∧ hs.getD i none = State.maxOrNone hs) := by
  have hk' : (0 : Rat) < k := by exact_mod_cast hk
  have hw' : (0 : Rat) < ((hs.filter fun h => h.isSome && h == maxOpt hs).length : Rat) := by exact_mod_cast hw
  rw [← C18_same_maximum, ← beq_iff_eq (b := maxOpt hs), ← Bool.and_eq_true]
  unfold typeShare
  simp only []
  split
  · exact iff_of_true (by positivity) ‹_›
  · exact iff_of_false (lt_irrefl 0) ‹_›

theorem C18_no_hand_no_share (hands : List (List (Option Int))) (hs : List (Option Int))
    (h : hs.any Option.isSome = false) : hs ∉ typesInPlay hands := by
  unfold typesInPlay
  simp [h]

theorem maxOpt_mem (l : List (Option Int)) :
    maxOpt l ∈ none :: l ∧ (maxOpt l).isSome = l.any Option.isSome := by
  rw [C18_same_maximum, maxOrNone_eq_max?]
  cases hm : (l.filterMap id).max? with
  | none =>
    refine ⟨List.mem_cons_self, ?_⟩
    symm
    simpa [List.filterMap_eq_nil_iff] using List.max?_eq_none_iff.1 hm
  | some m =>
    obtain ⟨x, hx, rfl⟩ := List.mem_filterMap.1 (List.max?_mem hm)
    exact ⟨List.mem_cons_of_mem _ hx, (List.any_eq_true.2 ⟨_, hx, rfl⟩).symm⟩

theorem winners_pos (hs : List (Option Int)) (h : hs.any Option.isSome = true) :
    0 < (hs.filter fun x => x.isSome && x == maxOpt hs).length := by
  obtain ⟨hmem, hsome⟩ := maxOpt_mem hs
  rw [h] at hsome
  have hmem : maxOpt hs ∈ hs := (List.mem_cons.mp hmem).resolve_left fun e => by simp [e] at hsome
  exact List.length_pos_of_mem (List.mem_filter.mpr ⟨hmem, by simp [hsome]⟩)

theorem typeShare_sum (k : Nat) (hs : List (Option Int)) (h : hs.any Option.isSome = true) :
    ((List.range hs.length).map fun i => typeShare k hs i).sum = 1 / (k : Rat) := by
  have hw : ((hs.filter fun h => h.isSome && h == maxOpt hs).length : Rat) ≠ 0 :=
    Nat.cast_ne_zero.mpr (winners_pos hs h).ne'
  unfold typeShare
  rw [map_getD_range hs none fun x => if x.isSome && x == maxOpt hs then
    1 / ((k : Rat) * (hs.filter fun h => h.isSome && h == maxOpt hs).length) else 0, sum_indicator,
    one_div, mul_inv, mul_assoc, inv_mul_cancel₀ hw, mul_one, one_div]

/-- `hplay` holds as soon as all cards are given: every player then has a hand of the high type -/
theorem C18_equity_sum (n : Nat) (hands : List (List (Option Int)))
    (hlen : ∀ hs ∈ hands, hs.length = n) (hplay : typesInPlay hands ≠ []) :
    (equitiesGiven n hands).sum = 1 := by
  simp only [equitiesGiven, ← List.sum_eq_foldl]
  rw [sum_swap, List.map_congr_left (g := fun _ => 1 / ((typesInPlay hands).length : Rat)), List.map_const',
    List.sum_replicate, nsmul_eq_mul]
  · exact mul_one_div_cancel (Nat.cast_ne_zero.mpr (List.length_pos_iff.mpr hplay).ne')
  · intro hs hmem
    obtain ⟨hmem, hany⟩ := List.mem_filter.mp hmem
    rw [← hlen hs hmem]
    exact typeShare_sum _ hs hany

/-- the share of the remaining probability mass held by the players still to be placed -/
def massOf (p : List Rat) (l : List Nat) : Rat := (l.map fun j => p.getD j 0).sum

theorem massOf_erase (p : List Rat) (l : List Nat) (x : Nat) (hx : x ∈ l) :
    massOf p (l.erase x) = massOf p l - p.getD x 0 :=
  eq_sub_of_add_eq' (List.sum_map_erase (fun j => p.getD j 0) hx)

theorem massOf_pos (p : List Rat) (l : List Nat) (hp : ∀ j ∈ l, 0 < p.getD j 0) (hne : l ≠ []) :
    0 < massOf p l :=
  List.sum_pos _ (List.forall_mem_map.mpr hp) (by simpa using hne)

theorem massOf_range (p : List Rat) : massOf p (List.range p.length) = p.sum :=
  congrArg List.sum ((map_getD_range p 0 id).trans (List.map_id p))

theorem permsK_mem : ∀ (k : Nat) (l o : List Nat), o ∈ permsK k l → o.length = k ∧ ∀ j ∈ o, j ∈ l := by
  intro k
  induction k with
  | zero => intro l o h; simp [permsK] at h; subst h; simp
  | succ k ih =>
    intro l o h
    simp only [permsK, List.mem_flatMap, List.mem_map] at h
    obtain ⟨x, hx, o', ho', rfl⟩ := h
    obtain ⟨h1, h2⟩ := ih (l.erase x) o' ho'
    refine ⟨by simp [h1], ?_⟩
    intro j hj
    rcases List.mem_cons.mp hj with rfl | hj
    · exact hx
    · exact List.mem_of_mem_erase (h2 j hj)

theorem orderProbability_nonneg (p : List Rat) : ∀ (k : Nat) (l : List Nat),
    (∀ j ∈ l, 0 < p.getD j 0) → ∀ o ∈ permsK k l, 0 ≤ orderProbability p o (massOf p l) := by
  intro k
  induction k with
  | zero => intro l _ o h; simp [permsK] at h; subst h; simp [orderProbability]
  | succ k ih =>
    intro l hp o h
    simp only [permsK, List.mem_flatMap, List.mem_map] at h
    obtain ⟨x, hx, o', ho', rfl⟩ := h
    have hrec := ih (l.erase x) (fun j hj => hp j (List.mem_of_mem_erase hj)) o' ho'
    rw [massOf_erase p l x hx] at hrec
    exact mul_nonneg (div_nonneg (hp x hx).le (massOf_pos p l hp (List.ne_nil_of_mem hx)).le) hrec

theorem orderProbability_sum (p : List Rat) : ∀ (k : Nat) (l : List Nat),
    (∀ j ∈ l, 0 < p.getD j 0) → l.Nodup → k ≤ l.length →
    ((permsK k l).map fun o => orderProbability p o (massOf p l)).sum = 1 := by
  intro k
  induction k with
  | zero => intro l _ _ _; simp [permsK, orderProbability]
  | succ k ih =>
    intro l hp hnd hk
    have hne : l ≠ [] := List.ne_nil_of_length_pos (Nat.lt_of_lt_of_le k.succ_pos hk)
    -- the orders that start with `x` carry `p x / mass` in all, by induction on the rest
    have hinner : ∀ x ∈ l, ((permsK k (l.erase x)).map fun o' => orderProbability p (x :: o') (massOf p l)).sum =
        p.getD x 0 / massOf p l := by
      intro x hx
      have hrec := ih (l.erase x) (fun j hj => hp j (List.mem_of_mem_erase hj)) (hnd.erase x)
        (by rw [List.length_erase_of_mem hx]; omega)
      rw [massOf_erase p l x hx] at hrec
      simp only [orderProbability]
      rw [List.sum_map_mul_left, hrec, mul_one]
    simp only [permsK, List.flatMap_def, List.map_flatten, List.sum_flatten, List.map_map, Function.comp_def]
    rw [List.map_congr_left hinner]
    exact sum_map_div_sum l _ (massOf_pos p l hp hne).ne'

theorem pct_facts (chips : List Rat) (hc : ∀ c ∈ chips, 0 < c) (hne : chips ≠ []) :
    (∀ j ∈ List.range chips.length, 0 < (chips.map (· / chips.sum)).getD j 0) ∧
    massOf (chips.map (· / chips.sum)) (List.range chips.length) = 1 := by
  have htot : 0 < chips.sum := List.sum_pos chips hc hne
  refine ⟨fun j hj => ?_, ?_⟩
  · have hj : j < (chips.map (· / chips.sum)).length := by simpa using hj
    rw [← List.getElem_eq_getD (h := hj), List.getElem_map]
    exact div_pos (hc _ (List.getElem_mem _)) htot
  · rw [← List.length_map (· / chips.sum), massOf_range]
    simpa using sum_map_div_sum chips id (by simpa using htot.ne')

theorem C18_icm_nonneg (payouts chips : List Rat) (hp : ∀ x ∈ payouts, 0 ≤ x) (hc : ∀ c ∈ chips, 0 < c) :
    ∀ v ∈ icm payouts chips, 0 ≤ v := by
  intro v hv
  simp only [icm, ← List.sum_eq_foldl, List.mem_map, List.mem_range] at hv
  obtain ⟨i, hi, rfl⟩ := hv
  obtain ⟨hpos, hmass⟩ := pct_facts chips hc (List.ne_nil_of_length_pos (Nat.zero_lt_of_lt hi))
  refine List.sum_nonneg (List.forall_mem_map.mpr fun o ho => List.sum_nonneg (List.forall_mem_map.mpr fun x hx => ?_))
  have hprob := orderProbability_nonneg _ _ _ hpos o ho
  rw [hmass] at hprob
  obtain ⟨pay, j⟩ := x
  split
  · exact mul_nonneg (hp pay (List.of_mem_zip hx).1) hprob
  · exact le_refl 0

theorem sum_order_payouts (payouts : List Rat) (o : List Nat) (n : Nat) (c : Rat) (ho : ∀ j ∈ o, j < n) :
    ((List.range n).map fun i => ((payouts.zip o).map fun x => if x.2 == i then x.1 * c else 0).sum).sum =
      (payouts.take o.length).sum * c := by
  rw [sum_swap]
  -- a place is paid to one player
  have hz : ∀ x ∈ payouts.zip o, ((List.range n).map fun i => if x.2 == i then x.1 * c else 0).sum = x.1 * c := by
    intro x hx
    rw [List.sum_map_eq_nsmul_single x.2 _ fun i hi _ => if_neg (by simpa using hi.symm),
      List.count_eq_one_of_mem List.nodup_range (List.mem_range.mpr (ho x.2 (List.of_mem_zip hx).2)), one_nsmul,
      if_pos (beq_self_eq_true _)]
  rw [List.map_congr_left hz, List.sum_map_mul_right, List.zip_eq_zip_take_min]
  congr 2
  rw [List.take_eq_take_min (i := o.length), Nat.min_comm]
  exact List.map_fst_zip (by simp)

theorem C18_icm_sum_take (payouts chips : List Rat) (hc : ∀ c ∈ chips, 0 < c) (hne : chips ≠ []) :
    (icm payouts chips).sum = (payouts.take chips.length).sum := by
  obtain ⟨hpos, hmass⟩ := pct_facts chips hc hne
  simp only [icm, ← List.sum_eq_foldl]
  -- of the percentages only their positivity and their total matter
  generalize chips.map (· / chips.sum) = pct at hpos hmass ⊢
  have hnorm := orderProbability_sum pct (min payouts.length chips.length) _ hpos List.nodup_range (by simp)
  rw [hmass] at hnorm
  -- summed over the players first, every finishing order pays out the same total
  rw [sum_swap, List.map_congr_left (g := fun o => (payouts.take chips.length).sum * orderProbability pct o 1),
    List.sum_map_mul_left, hnorm, mul_one]
  intro o ho
  obtain ⟨hlen, hmem⟩ := permsK_mem _ _ _ ho
  rw [sum_order_payouts _ _ _ _ fun j hj => List.mem_range.mp (hmem j hj), hlen, Nat.min_comm,
    ← List.take_eq_take_min]

theorem C18_icm_sum (payouts chips : List Rat) (hc : ∀ c ∈ chips, 0 < c)
    (hk : payouts.length ≤ chips.length) (hne : chips ≠ []) :
    (icm payouts chips).sum = payouts.sum := by
  rw [C18_icm_sum_take payouts chips hc hne, List.take_of_length_le hk]

end PK
