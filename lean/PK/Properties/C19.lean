/-
  C19 — equivalent ways of writing chips and cards mean the same thing.

  Chips (`clean_values`):
  * `C19_number`, `C19_list`      a single number is that number for every player; a list / tuple is
                                  cut or padded with zeros to the player count.
  * `C19_mapping`                 a position-to-amount mapping gives every player the sum of the
                                  entries whose key names him (missing entries zero); it is refused
                                  (IndexError) iff a key is out of range (`C19_mapping_refused`);
                                  `cleanValues_map` is the two as one equation.
  * `C19_negative_key`            a negative position counts from the button: `-1` is the last seat
                                  (`C19_positive_key`: keys `0 … n-1` are the seats themselves;
                                  `C19_key_range`: every other key is out of range).
  * `C19_same_layout`             the explicit list, the mapping of every position and the mapping with
                                  every position written negatively all denote the same per-player
                                  list; so does, for equal amounts, the single number
                                  (`C19_number_is_list`).
  Cards (`Card.parse`, `Card.clean`):
  * `C19_card_roundtrip`          the text form of each of the 70 cards (13 ranks and `?` × 4 suits and
                                  `?`) parses back to exactly that card.
  * `C19_ten`                     `10` may be written for `T`.
  * `C19_cards_text`              the text forms of any list of cards, written one after the other,
                                  parse back to that list; `C19_separated`: so do two runs of them
                                  separated by any mixture of whitespace and commas (the two above are
                                  its cases without a separator).
  * `C19_clean`                   a card object, the list holding it and its text denote the same
                                  cards; `C19_clean_many`: so do the list and the text of several cards.
  Construction (`State.__post_init__`):
  * `C19_accepts`                 an accepted configuration has no negative ante or bring-in, some
                                  forced bet, only positive stacks, no blinds together with a bring-in
                                  and at least two players; `C19_rejects`: each defect alone refuses
                                  (ValueError).
  Helpers:
  * `C19_divmod`, `C19_rake`      the default pot-division (`divmod`) and rake helpers return parts that add up
                                  to the amount (and are non-negative for a non-negative amount).
-/
import PK.Proofs.Pots
import PK.Proofs.Validate
import PK.Proofs.Text
namespace PK

theorem C19_number (v : Int) (n : Nat) : cleanValues (.num v) n = some (List.replicate n v) := rfl

theorem C19_list (l : List Int) (n : Nat) :
    cleanValues (.seq l) n = some (l.take n ++ List.replicate (n - l.length) 0) ∧
    (l.take n ++ List.replicate (n - l.length) 0).length = n := by
  constructor
  · rw [cleanValues, List.length_take, show n - min n l.length = n - l.length by omega]
  · rw [List.length_append, List.length_take, List.length_replicate]
    omega

theorem C19_list_exact (l : List Int) : cleanValues (.seq l) l.length = some l := by
  rw [(C19_list l l.length).1]; simp

/-- what a mapping contributes to seat `i`: the sum of the values whose key names seat `i` -/
def contribution (n : Nat) (m : List (Int × Int)) (i : Nat) : Int :=
  sumI (m.map fun kx => if pyIndex n kx.1 = some i then kx.2 else 0)

theorem pyIndex_lt {n : Nat} {k : Int} {i : Nat} (h : pyIndex n k = some i) : i < n := by
  unfold pyIndex at h
  split at h <;> split at h <;> cases h <;> omega

/-- the accumulation loop `parsed_values[key] += value` -/
def mapStep (n : Nat) (acc : Option (List Int)) (kx : Int × Int) : Option (List Int) :=
  match acc with
  | none => none
  | some l => match pyIndex n kx.1 with
    | none => none
    | some i => some (l.set i (l.getD i 0 + kx.2))

theorem foldl_mapStep (n : Nat) : ∀ (m : List (Int × Int)) (acc : List Int), acc.length = n →
    m.foldl (mapStep n) (some acc) =
      if ∀ kx ∈ m, pyIndex n kx.1 ≠ none then
        some ((List.range n).map fun i => getI acc i + contribution n m i)
      else none := by
  intro m
  induction m with
  | nil =>
    intro acc hlen
    subst hlen
    simpa [contribution] using (map_range_getI acc).symm
  | cons kx m ih =>
    intro acc hlen
    rw [List.foldl_cons]
    cases hj : pyIndex n kx.1 with
    | none =>
      simp only [mapStep, hj]
      rw [foldl_fixed (fun _ => rfl), if_neg fun h => h kx List.mem_cons_self hj]
    | some j =>
      simp only [mapStep, hj]
      rw [ih _ (by simp [hlen])]
      refine ite_congr (by simp [hj]) (fun _ => congrArg some (List.map_congr_left fun i hi => ?_)) fun _ => rfl
      rw [← getI, getI_set', contribution, contribution, List.map_cons, sumI_cons, hj]
      by_cases hij : j = i
      · subst hij
        rw [if_pos ⟨rfl, hlen ▸ List.mem_range.1 hi⟩, if_pos rfl]
        omega
      · rw [if_neg fun h => hij h.1, if_neg fun h => hij (Option.some.inj h)]
        omega

theorem cleanValues_map (m : List (Int × Int)) (n : Nat) :
    cleanValues (.map m) n =
      if ∀ kx ∈ m, pyIndex n kx.1 ≠ none then some ((List.range n).map (contribution n m)) else none := by
  rw [show cleanValues (.map m) n = m.foldl (mapStep n) (some (List.replicate n 0)) from rfl,
    foldl_mapStep n m _ List.length_replicate]
  refine ite_congr rfl (fun _ => congrArg some (List.map_congr_left fun i hi => ?_)) fun _ => rfl
  rw [getI_replicate n i 0 (List.mem_range.1 hi), Int.zero_add]

theorem C19_mapping (m : List (Int × Int)) (n : Nat) (hok : ∀ kx ∈ m, pyIndex n kx.1 ≠ none) :
    ∃ l, cleanValues (.map m) n = some l ∧ l.length = n ∧ ∀ i, i < n → l.getD i 0 = contribution n m i :=
  ⟨_, (cleanValues_map m n).trans (if_pos hok), by simp, fun i hi => getI_map_range n i _ hi⟩

theorem C19_mapping_refused (m : List (Int × Int)) (n : Nat) (kx : Int × Int) (hmem : kx ∈ m)
    (hbad : pyIndex n kx.1 = none) : cleanValues (.map m) n = none :=
  (cleanValues_map m n).trans (if_neg fun h => h kx hmem hbad)

theorem C19_negative_key (n j : Nat) (h : j < n) : pyIndex n (-((j : Int) + 1)) = some (n - 1 - j) := by
  rw [pyIndex, if_neg (by omega), show (-(-((j : Int) + 1))).toNat = j + 1 by omega,
    if_pos (show j + 1 ≤ n from h)]
  congr 1
  omega

theorem C19_positive_key (n i : Nat) (h : i < n) : pyIndex n (i : Int) = some i := by
  simp [pyIndex, h]

theorem C19_key_range (n : Nat) (k : Int) : pyIndex n k ≠ none ↔ (-(n : Int) ≤ k ∧ k < n) := by
  unfold pyIndex
  split <;> split <;> simp <;> omega

theorem cleanValues_every_seat (l : List Int) (key : Nat → Int)
    (hkey : ∀ i < l.length, pyIndex l.length (key i) = some i) :
    cleanValues (.map ((List.range l.length).map fun i => (key i, l.getD i 0))) l.length = some l := by
  rw [cleanValues_map, if_pos fun kx hkx => by
    obtain ⟨i, hi, rfl⟩ := List.mem_map.mp hkx
    rw [hkey i (List.mem_range.mp hi)]
    nofun]
  refine (congrArg some (List.map_congr_left fun i hi => ?_)).trans (congrArg some (map_range_getI l))
  rw [contribution, List.map_map,
    sumI_map_congr _ _ (fun j => if j = i then l.getD j 0 else 0) fun j hj => by
      simp [hkey j (List.mem_range.1 hj)],
    sum_single, if_pos (List.mem_range.1 hi)]
  rfl

theorem C19_same_layout (l : List Int) :
    cleanValues (.seq l) l.length = some l ∧
    cleanValues (.map ((List.range l.length).map fun (i : Nat) => ((i : Int), l.getD i 0))) l.length = some l ∧
    cleanValues (.map ((List.range l.length).map fun (i : Nat) => ((i : Int) - l.length, l.getD i 0))) l.length = some l := by
  refine ⟨C19_list_exact l, cleanValues_every_seat l _ fun i hi => C19_positive_key _ _ hi,
    cleanValues_every_seat l _ fun i hi => ?_⟩
  have := C19_negative_key l.length (l.length - 1 - i) (by omega)
  rwa [show -(((l.length - 1 - i : Nat) : Int) + 1) = (i : Int) - l.length by omega,
    show l.length - 1 - (l.length - 1 - i) = i by omega] at this

theorem C19_number_is_list (v : Int) (n : Nat) :
    cleanValues (.num v) n = cleanValues (.seq (List.replicate n v)) n := by
  rw [C19_number, (C19_list _ _).1]; simp

/-- the 70 cards: 13 ranks and the unknown rank, 4 suits and the unknown suit -/
def cards70 : List Card := (List.range 14).flatMap fun r => (List.range 5).map fun s => ⟨r, s⟩

theorem mem_cards70 (c : Card) : c ∈ cards70 ↔ c.rank < 14 ∧ c.suit < 5 := by
  unfold cards70
  simp only [List.mem_flatMap, List.mem_range, List.mem_map]
  constructor
  · rintro ⟨r, hr, s, hs, rfl⟩; exact ⟨hr, hs⟩
  · rintro ⟨hr, hs⟩; exact ⟨c.rank, hr, c.suit, hs, rfl⟩

theorem parseChars_ten (rest : List Char) :
    Card.parseChars ('1' :: '0' :: rest) = Card.parseChars ('T' :: rest) := rfl

theorem C19_ten : ∀ s ∈ suitChars, Card.parseChars ['1', '0', s] = Card.parseChars ['T', s] :=
  fun s _ => parseChars_ten [s]

theorem rankChar_facts : ∀ r < 14, rankOfChar (rankChars.getD r '!') = some r ∧
    rankChars.getD r '!' ≠ '1' ∧ rankChars.getD r '!' ≠ ',' ∧ isPyWhitespace (rankChars.getD r '!') = false := by
  decide

theorem suitChar_facts : ∀ s < 5, suitOfChar (suitChars.getD s '!') = some s ∧
    suitChars.getD s '!' ≠ '1' ∧ suitChars.getD s '!' ≠ ',' ∧ isPyWhitespace (suitChars.getD s '!') = false := by
  decide

theorem reprChars_plain {c : Card} (hc : c ∈ cards70) :
    ∀ ch ∈ c.reprChars, ch ≠ '1' ∧ ch ≠ ',' ∧ isPyWhitespace ch = false := by
  obtain ⟨hr, hs⟩ := (mem_cards70 c).1 hc
  simp only [Card.reprChars, List.forall_mem_cons, List.not_mem_nil, false_imp_iff, implies_true, and_true]
  exact ⟨(rankChar_facts _ hr).2, (suitChar_facts _ hs).2⟩

theorem parsePairs_repr {c : Card} (hc : c ∈ cards70) (rest : List Char) :
    parsePairs (c.reprChars ++ rest) = (parsePairs rest).map (c :: ·) := by
  obtain ⟨hr, hs⟩ := (mem_cards70 c).1 hc
  show parsePairs (rankChars.getD c.rank '!' :: suitChars.getD c.suit '!' :: rest) = _
  rw [parsePairs, (rankChar_facts _ hr).1, (suitChar_facts _ hs).1]
  cases parsePairs rest <;> rfl

theorem parsePairs_reprs (cs : List Card) (h : ∀ c ∈ cs, c ∈ cards70) :
    parsePairs (cs.flatMap Card.reprChars) = some cs := by
  induction cs with
  | nil => rfl
  | cons c cs ih =>
    have ⟨hc, hcs⟩ := List.forall_mem_cons.1 h
    rw [List.flatMap_cons, parsePairs_repr hc, ih hcs]
    rfl

theorem reprs_plain (cs : List Card) (h : ∀ c ∈ cs, c ∈ cards70) :
    ∀ ch ∈ cs.flatMap Card.reprChars, ch ≠ '1' ∧ ch ≠ ',' ∧ isPyWhitespace ch = false := by
  intro ch hch
  obtain ⟨c, hc, hcc⟩ := List.mem_flatMap.mp hch
  exact reprChars_plain (h c hc) ch hcc

theorem length_reprs (cs : List Card) : (cs.flatMap Card.reprChars).length = 2 * cs.length := by
  induction cs with
  | nil => rfl
  | cons c cs ih =>
    rw [List.flatMap_cons, List.length_append, ih, List.length_cons, Nat.mul_succ, Nat.add_comm]
    rfl

/-- the chunks of one run of card texts, in the form `splitWs_sep` and `splitWs_plain` give them -/
theorem foldl_parseChunk_reprs (l cs : List Card) (h : ∀ c ∈ cs, c ∈ cards70) :
    (if (cs.flatMap Card.reprChars).isEmpty then [] else [cs.flatMap Card.reprChars]).foldl parseChunk (some l) =
      some (l ++ cs) := by
  cases cs with
  | nil => simp
  | cons c cs =>
    show parseChunk (some l) _ = _
    rw [parseChunk, length_reprs, Nat.mul_mod_right, parsePairs_reprs _ h]
    rfl

theorem replace10_plain : ∀ (l : List Char), (∀ ch ∈ l, ch ≠ '1') → replace10 l = l := by
  intro l
  induction l with
  | nil => intro _; rfl
  | cons a l ih =>
    intro h
    have ⟨ha, hl⟩ := List.forall_mem_cons.1 h
    rw [replace10, ih hl]
    exact fun _ e _ => ha e

theorem C19_separated (a b : List Card) (sep : List Char) (ha : ∀ c ∈ a, c ∈ cards70)
    (hb : ∀ c ∈ b, c ∈ cards70) (hsep : ∀ ch ∈ sep, ch = ',' ∨ isPyWhitespace ch = true) :
    Card.parseChars (a.flatMap Card.reprChars ++ sep ++ b.flatMap Card.reprChars) = some (a ++ b) := by
  have hpa := reprs_plain a ha
  have hpb := reprs_plain b hb
  have hsep1 : ∀ ch ∈ sep, ch ≠ '1' := by
    intro ch hch
    rcases hsep ch hch with rfl | h
    · decide
    · rintro rfl
      exact absurd h (by decide)
  have hw : ∀ ch ∈ sep.filter (· != ','), isPyWhitespace ch = true := by
    intro ch hch
    obtain ⟨hmem, hne⟩ := List.mem_filter.1 hch
    exact (hsep ch hmem).resolve_left (by simpa using hne)
  have hfilter : ∀ cs : List Card, (∀ c ∈ cs, c ∈ cards70) →
      (cs.flatMap Card.reprChars).filter (· != ',') = cs.flatMap Card.reprChars := by
    intro cs h
    rw [List.filter_eq_self]
    intro ch hch
    simpa using (reprs_plain cs h ch hch).2.1
  rw [Card.parseChars, replace10_plain _ (by
    simp only [List.mem_append]
    rintro ch ((h | h) | h)
    · exact (hpa ch h).1
    · exact hsep1 ch h
    · exact (hpb ch h).1), List.filter_append, List.filter_append, hfilter a ha, hfilter b hb]
  generalize sep.filter (· != ',') = w at hw
  by_cases hwne : w = []
  · have hab : ∀ c ∈ a ++ b, c ∈ cards70 := by
      simpa [or_imp, forall_and] using ⟨ha, hb⟩
    rw [hwne, List.append_nil, ← List.flatMap_append, splitWs_plain _ fun ch h => (reprs_plain _ hab ch h).2.2]
    exact foldl_parseChunk_reprs [] _ hab
  · rw [splitWs_sep _ w _ (fun ch h => (hpa ch h).2.2) hw (fun ch h => (hpb ch h).2.2) hwne, List.foldl_append,
      foldl_parseChunk_reprs [] a ha, foldl_parseChunk_reprs _ b hb]
    rfl

theorem C19_cards_text (cs : List Card) (h : ∀ c ∈ cs, c ∈ cards70) :
    Card.parseChars (cs.flatMap Card.reprChars) = some cs := by
  simpa using C19_separated cs [] [] h (by simp) (by simp)

theorem C19_card_roundtrip : ∀ c ∈ cards70, Card.parseChars c.reprChars = some [c] := by
  intro c hc
  simpa using C19_cards_text [c] (by simpa using hc)

/-- `C19_card_roundtrip` through the `String` functions the model's `Card.parse` / `Card.repr` use -/
theorem C19_card_roundtrip_string (c : Card) (h : c ∈ cards70) : Card.parse c.repr = some [c] := by
  unfold Card.parse Card.repr
  rw [String.toList_ofList]
  exact C19_card_roundtrip c h

/-- e.g. `"AsKs"`, `"As Ks"`, `"As,Ks"` and `"As, Ks"` are the same two cards -/
example : Card.parseChars "AsKs".toList = some [⟨0, 3⟩, ⟨12, 3⟩] ∧
    Card.parseChars "As Ks".toList = Card.parseChars "AsKs".toList ∧
    Card.parseChars "As,Ks".toList = Card.parseChars "AsKs".toList ∧
    Card.parseChars "As, Ks".toList = Card.parseChars "AsKs".toList := by decide

theorem C19_clean (c : Card) (h : c ∈ cards70) :
    Card.clean (.card c) = some [c] ∧ Card.clean (.cards [c]) = some [c] ∧
    Card.clean (.text c.repr) = some [c] :=
  ⟨rfl, rfl, C19_card_roundtrip_string c h⟩

theorem C19_clean_many (cs : List Card) (h : ∀ c ∈ cs, c ∈ cards70) :
    Card.clean (.text (String.ofList (cs.flatMap Card.reprChars))) = Card.clean (.cards cs) := by
  show Card.parse _ = some cs
  unfold Card.parse
  rw [String.toList_ofList]
  exact C19_cards_text cs h

theorem C19_accepts (c : Config) (h : c.validate = none) :
    (∀ a ∈ c.antes, 0 ≤ a) ∧ 0 ≤ c.bringIn ∧
    (c.antes.any (· != 0) ∨ c.blinds.any (· != 0) ∨ c.bringIn ≠ 0) ∧
    (∀ s ∈ c.startingStacks, 0 < s) ∧
    ¬ (c.blinds.any (· != 0) = true ∧ c.bringIn ≠ 0) ∧ 2 ≤ c.n := by
  have v := Config.valid_of_validate h
  exact ⟨v.antes, v.bringIn, v.forced, v.stacks, v.notBoth, v.players⟩

theorem C19_rejects (c : Config)
    (h : (∃ a ∈ c.antes, a < 0) ∨ c.bringIn < 0 ∨
         (c.antes.any (· != 0) = false ∧ c.blinds.any (· != 0) = false ∧ c.bringIn = 0) ∨
         (∃ s ∈ c.startingStacks, s ≤ 0) ∨ (c.blinds.any (· != 0) = true ∧ c.bringIn ≠ 0) ∨ c.n < 2) :
    c.validate ≠ none := by
  intro hv
  obtain ⟨h1, h2, h3, h4, h5, h6⟩ := C19_accepts c hv
  rcases h with ⟨a, ha, hneg⟩ | h | ⟨ha, hb, hc⟩ | ⟨s, hs, hle⟩ | h | h
  · have := h1 a ha; omega
  · omega
  · rcases h3 with h | h | h
    · rw [ha] at h; cases h
    · rw [hb] at h; cases h
    · exact h hc
  · have := h4 s hs; omega
  · exact h5 h
  · omega

theorem C19_divmod (a n q r : Int) (h : pyDivmod a n = some (q, r)) :
    q * n + r = a ∧ (0 < n → 0 ≤ r ∧ r < n) ∧ (0 < n → 0 ≤ a → 0 ≤ q) := by
  unfold pyDivmod at h
  split at h
  · cases h
  · rename_i hn
    cases h
    refine ⟨?_, ?_, ?_⟩
    · have := Int.fmod_add_fdiv_mul a n
      omega
    · intro hpos
      exact ⟨Int.fmod_nonneg_of_pos a hpos, Int.fmod_lt_of_pos a hpos⟩
    · intro hpos ha
      rw [Int.fdiv_eq_ediv_of_nonneg a (by omega)]
      exact Int.ediv_nonneg ha (by omega)

/-- the divisor zero is refused (ZeroDivisionError) -/
theorem C19_divmod_zero (a : Int) : pyDivmod a 0 = none := by simp [pyDivmod]

theorem C19_rake (r : RakeCfg) (b : Bool) (a : Int) : (pyRake r b a).1 + (pyRake r b a).2 = a :=
  pyRake_sum r b a

theorem roundHalfEven_le (x den a : Int) (hd : 0 < den) (h0 : 0 ≤ x) (hx : x ≤ a * den) :
    0 ≤ roundHalfEven x den ∧ roundHalfEven x den ≤ a := by
  have hq0 : 0 ≤ Int.fdiv x den := by
    rw [Int.fdiv_eq_ediv_of_nonneg x (by omega)]; exact Int.ediv_nonneg h0 (by omega)
  have hr0 := Int.fmod_nonneg_of_pos x hd
  have hsum := Int.fmod_add_fdiv_mul x den
  unfold roundHalfEven
  simp only []
  generalize Int.fdiv x den = q at *
  generalize Int.fmod x den = r at *
  -- the quotient is at most `a`, and below `a` unless the division is exact
  have hqa : q ≤ a := Int.le_of_mul_le_mul_right (show q * den ≤ a * den by omega) hd
  have hqa' : r = 0 ∨ q + 1 ≤ a := by
    by_cases hr : r = 0
    · exact Or.inl hr
    · exact Or.inr (Int.lt_of_mul_lt_mul_right (show q * den < a * den by omega) (by omega))
  repeat' split
  all_goals omega

theorem C19_rake_nonneg (r : RakeCfg) (b : Bool) (a : Int) (ha : 0 ≤ a) (hd : 0 < r.den)
    (hp0 : 0 ≤ r.num) (hp1 : r.num ≤ r.den) (hcap : ∀ c, r.cap = some c → 0 ≤ c) :
    0 ≤ (pyRake r b a).1 ∧ 0 ≤ (pyRake r b a).2 := by
  unfold pyRake
  split
  · exact ⟨Int.le_refl 0, ha⟩
  · have hnum : 0 ≤ a * r.num := Int.mul_nonneg ha hp0
    have hle : a * r.num ≤ a * r.den := Int.mul_le_mul_of_nonneg_left hp1 ha
    obtain ⟨h0, h1⟩ := roundHalfEven_le (a * r.num) r.den a hd hnum hle
    cases hc : r.cap with
    | none => simp only []; exact ⟨h0, by omega⟩
    | some c =>
      simp only []
      have := hcap c hc
      constructor <;> omega

end PK
