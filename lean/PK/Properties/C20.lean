/-
  C20 — importing a poker-site log yields a history that reproduces the log's outcome.

  Partial by construction: the importers are ~1 100 lines of regular expressions around ~150 lines of
  logic.  Lean decides the logic, at the level of the events a log yields; the regular-expression
  layer is tied by correspondence only (harness/sitelogs.py renders hands in each site's format, runs
  the real importers and compares).

  Proved here (lean/PK/Model/Import.lean):
  * `C20_convention_inverse`  for each of the six sites, converting the amount a site writes for a
                              raise back gives the "raise to" amount, whatever the bets so far;
  * `C20_raise_to`            **the imported betting actions are the actions played, with raises in
                              "raise to" form**: for every site, every sequence of posts, deals, folds,
                              calls, raises and shows (any players, any amounts, any number of
                              streets) in which every raise exceeds the bet to match (`GenuineRaises`),
                              importing what the site prints gives back exactly the hand —
                              the importer's per-street bet table is always the table of the hand;
  * `C20_short_raise_is_call` a "raise" that does not exceed the bet to match is imported as a call;
  * `C20_button_last`, `C20_button_position`, `C20_order_rotation`  players are put in position order: the
                              seat after the button first, the button last, the cyclic seat order kept;
  * `C20_blinds_layout`       the first two players in position order keep what they posted, anybody
                              else's post is marked as a late post (a negative entry); heads-up the two entries are
                              swapped (pokerkit's heads-up convention).
-/
import PK.Model.Import
namespace PK

theorem C20_convention_inverse (site : Site) (w : Wording) (maxBet own t : Nat)
    (h1 : own ≤ t) (h2 : maxBet ≤ t) :
    toAmount site w maxBet own (rawAmount site w maxBet own t) = t := by
  cases site <;> cases w <;> simp only [toAmount, rawAmount] <;> omega

theorem getN_le_maxN (l : List Nat) (i : Nat) : getN l i ≤ maxN l := by
  induction l generalizing i with
  | nil => exact Nat.le_refl 0
  | cons x xs ih =>
    cases i with
    | zero => exact Nat.le_max_left x _
    | succ k => exact Nat.le_trans (ih k) (Nat.le_max_right x _)

/-- the hand is well-formed from this point on: every raise really raises -/
def GenuineRaises (site : Site) : List Nat → List TrueEvent → Prop
  | _, [] => True
  | bets, e :: es =>
    (match e with
     | .raiseTo _ t _ => maxN bets < t
     | _ => True) ∧ GenuineRaises site (renderStep site bets e).1 es

theorem importStep_renderStep (site : Site) (bets : List Nat) (e : TrueEvent)
    (h : match e with
      | .raiseTo _ t _ => maxN bets < t
      | _ => True) :
    importStep site bets (renderStep site bets e).2 = ((renderStep site bets e).1, trueAction e) := by
  cases e with
  | raiseTo p t w =>
    have hmx : maxN bets < t := h
    have hinv := C20_convention_inverse site w (maxN bets) (getN bets p) t
      (Nat.le_trans (getN_le_maxN bets p) (Nat.le_of_lt hmx)) (Nat.le_of_lt hmx)
    simp only [renderStep, importStep, hinv, trueAction, if_neg (Nat.not_le.2 hmx)]
  | _ => rfl

theorem C20_raise_to (site : Site) : ∀ (events : List TrueEvent) (bets : List Nat),
    GenuineRaises site bets events →
    importEvents site bets (renderEvents site bets events) = events.filterMap trueAction := by
  intro events
  induction events with
  | nil => intro bets _; rfl
  | cons e es ih =>
    intro bets ⟨hraise, hrest⟩
    rw [renderEvents, importEvents, importStep_renderStep site bets e hraise, List.filterMap_cons, ih _ hrest]
    cases trueAction e <;> rfl

theorem C20_short_raise_is_call (site : Site) (bets : List Nat) (p raw : Nat) (w : Wording)
    (h : toAmount site w (maxN bets) (getN bets p) raw ≤ maxN bets) :
    (importStep site bets (.raise p raw w)).2 = some (.call p) := by
  simp [importStep, h]

/-- `C20_button_position` reads off the first and the last player of this rotation -/
theorem C20_button_last (players : List Nat) (i : Nat) (fp : Option Nat) :
    orderedPlayers players (some i) fp = some (players.drop ((i + 1) % players.length) ++ players.take ((i + 1) % players.length)) := by
  have : (((i : Int) + 1) % (players.length : Int)).toNat = (i + 1) % players.length := by
    show (((i + 1 : Nat) : Int) % (players.length : Int)).toNat = _
    rw [← Int.natCast_emod, Int.toNat_natCast]
  rw [orderedPlayers, Option.map_some, this]

theorem C20_order_rotation (players : List Nat) (b : Option Nat) (fp : Option Nat) (l : List Nat)
    (h : orderedPlayers players b fp = some l) : ∃ k, l = players.drop k ++ players.take k := by
  unfold orderedPlayers at h
  simp only [Option.map_eq_some_iff] at h
  obtain ⟨f, _, hf⟩ := h
  exact ⟨_, hf.symm⟩

theorem C20_button_position (players : List Nat) (i : Nat) (hi : i < players.length) (hn : 2 ≤ players.length) :
    (players.drop ((i + 1) % players.length) ++ players.take ((i + 1) % players.length)).getLast? = players[i]? ∧
    (players.drop ((i + 1) % players.length) ++ players.take ((i + 1) % players.length)).head? =
      players[(i + 1) % players.length]? := by
  have hk : (i + 1) % players.length < players.length := Nat.mod_lt _ (by omega)
  constructor
  · by_cases hlast : i + 1 = players.length
    · rw [hlast, Nat.mod_self, List.drop_zero, List.take_zero, List.append_nil, List.getLast?_eq_getElem?]
      congr 1
      omega
    · rw [Nat.mod_eq_of_lt (by omega), List.getLast?_append, List.getLast?_eq_getElem?, List.length_take,
        show min (i + 1) players.length - 1 = i by omega, List.getElem?_take_of_lt (by omega),
        List.getElem?_eq_getElem hi]
      rfl
  · rw [List.head?_append, List.head?_drop, List.getElem?_eq_getElem hk]
    rfl

theorem C20_blinds_layout (posted : List Nat) :
    (posted.length ≠ 2 → ∀ i (hi : i < posted.length),
      (blindsLayout posted)[i]? = some (if i < 2 then (posted[i] : Int) else -(posted[i] : Int))) ∧
    (∀ a b, posted = [a, b] → blindsLayout posted = [(b : Int), (a : Int)]) := by
  constructor
  · intro hne i hi
    unfold blindsLayout
    have : (posted.length == 2) = false := by simpa using hne
    simp only [this, Bool.false_eq_true, if_false]
    simp [hi]
  · intro a b h
    subst h
    rfl

end PK
